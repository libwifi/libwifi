import LWV.Model.Tags
import LWV.Lemmas.Outcome
/-
The greedy TLV parse (`parseAtF` is `offsets` of `parseF`) and the iterator model read against
`List.drop` views of the buffer.
-/
namespace LWV
open LWV.Spec LWV.Model

theorem parseF_succ (f : Nat) (bs : Bytes) (h : bs.length ≤ f) : parseF (f + 1) bs = parseF f bs := by
  fun_induction parseF f bs with
  | case1 bs =>
    rw [List.eq_nil_of_length_eq_zero (Nat.le_zero.mp h)]
    rfl
  | case2 fuel n l rest hl ih =>
    -- what is left behind the first element is at least two octets shorter
    rw [parseF, if_pos hl,
      ih (Nat.le_trans (List.drop_sublist _ _).length_le (Nat.le_of_succ_le (Nat.le_of_succ_le_succ h)))]
  | case3 fuel n l rest hl => rw [parseF, if_neg hl]
  | case4 fuel bs hb => exact parseF.eq_3 _ _ hb

theorem parseF_fuel (f : Nat) (bs : Bytes) (h : bs.length ≤ f) :
    parseF f bs = parseF bs.length bs := by
  induction h with
  | refl => rfl
  | step hf ih => rw [parseF_succ _ bs hf, ih]

theorem parse_cons (n l : UInt8) (rest : Bytes) :
    parse (n :: l :: rest)
      = if l.toNat ≤ rest.length then ⟨n, rest.take l.toNat⟩ :: parse (rest.drop l.toNat) else [] := by
  unfold parse
  rw [List.length_cons, List.length_cons, parseF]
  split
  · rw [parseF_fuel (rest.length + 1) _ (Nat.le_trans (List.drop_sublist _ _).length_le (Nat.le_succ _))]
  · rfl

/-- the first element fits exactly when the greedy parse finds an element -/
theorem firstFits_iff (bs : Bytes) : firstFits bs ↔ parse bs ≠ [] := by
  match bs with
  | [] => exact ⟨False.elim, fun h => h rfl⟩
  | [_] => exact ⟨False.elim, fun h => h rfl⟩
  | n :: l :: rest =>
    rw [parse_cons]
    by_cases h : l.toNat ≤ rest.length
    · rw [if_pos h]; exact ⟨fun _ => List.cons_ne_nil _ _, fun _ => h⟩
    · rw [if_neg h]; exact ⟨fun hf => absurd hf h, fun hn => absurd rfl hn⟩

def offsets : Nat → List Elem → List ElemAt
  | _, [] => []
  | base, e :: t => ⟨base, e.num, e.body.length⟩ :: offsets (base + 2 + e.body.length) t

theorem parseAtF_eq_offsets (f base : Nat) (bs : Bytes) : parseAtF f base bs = offsets base (parseF f bs) := by
  fun_induction parseAtF f base bs with
  | case1 => rfl
  | case2 fuel base n l rest h ih => rw [parseF, if_pos h, offsets, ih, List.length_take, Nat.min_eq_left h]
  | case3 fuel base n l rest h =>
    rw [parseF, if_neg h]
    rfl
  | case4 fuel base bs h =>
    rw [parseF.eq_3 _ _ h]
    rfl

theorem parseAt_eq_offsets (bs : Bytes) : parseAt bs = offsets 0 (parse bs) :=
  parseAtF_eq_offsets _ _ _

theorem length_of_drop {bs : Bytes} {off : Nat} {x : UInt8} {t : Bytes} (h : bs.drop off = x :: t) :
    bs.length = off + (t.length + 1) := by
  have hl : bs.length - off = t.length + 1 := List.length_drop.symm.trans (congrArg List.length h)
  exact (Nat.eq_add_of_sub_eq (Nat.le_of_lt (Nat.lt_of_sub_pos (hl ▸ Nat.succ_pos _))) hl).trans (Nat.add_comm _ _)

theorem drop_next {bs : Bytes} {off : Nat} {n l : UInt8} {rest : Bytes} (h : bs.drop off = n :: l :: rest) (k : Nat) :
    bs.drop (off + 2 + k) = rest.drop k := by
  rw [Nat.add_assoc, Nat.add_comm 2, ← List.drop_drop, h]
  rfl

/-- `libwifi_tag_iterator_next` as a function of what lies at `_next_tag_header`: it advances exactly
onto a complete non-empty element -/
theorem iterNext_eq (bs : Bytes) (it : TagIt) (hend : it.endp = bs.length - 1) :
    iterNext bs it = .ok (match bs.drop it.next with
      | _ :: l :: rest =>
        if l.toNat = 0 ∨ rest.length < l.toNat then none
        else some ⟨it.next, it.next + 2, it.next + 2 + l.toNat, it.endp⟩
      | _ => none) := by
  unfold iterNext
  rw [hend]
  match h : bs.drop it.next with
  | [] => exact if_pos (Nat.le_trans (Nat.sub_le _ _) (List.drop_eq_nil_iff.mp h))
  | [_] =>
    rw [length_of_drop h]
    exact if_pos (Nat.le_refl _)
  | n :: l :: rest =>
    -- `next` lies `rest.length + 2` octets before the end of the buffer, that is `rest.length + 1` before `_frame_end`
    have hb : bs.length = it.next + (rest.length + 2) := length_of_drop h
    have he : bs.length - 1 - it.next = rest.length + 1 := by
      rw [hb]
      exact Nat.add_sub_cancel_left it.next (rest.length + 1)
    rw [if_neg (by rw [hb]; exact Nat.not_le.mpr (Nat.lt_add_of_pos_right (Nat.succ_pos _)))]
    dsimp only
    rw [rd_of_drop (off := it.next) (k := 1) (b := l) (by rw [h]; rfl), Outcome.bind_ok, he]
    by_cases hz : l.toNat = 0
    · rw [if_pos hz, if_pos (Or.inl hz)]
    · rw [if_neg hz]
      -- the model's test `l.toNat ≥ rest.length + 1` is `rest.length < l.toNat` unfolded
      by_cases hge : rest.length < l.toNat
      · exact (if_pos hge).trans (congrArg _ (if_pos (Or.inr hge)).symm)
      · exact (if_neg hge).trans (congrArg _ (if_neg fun h => h.elim hz hge).symm)

/-- the walk over non-empty elements stops where `libwifi_tag_iterator_next` gives up (`iterNext_eq`) -/
theorem takeWhile_offsets_parse_cons (off : Nat) (n l : UInt8) (rest : Bytes) :
    (offsets off (parse (n :: l :: rest))).takeWhile (fun x => x.len ≠ 0)
      = if l.toNat = 0 ∨ rest.length < l.toNat then [] else visible (offsets off (parse (n :: l :: rest))) := by
  rw [parse_cons]
  by_cases hfit : l.toNat ≤ rest.length
  · by_cases hz : l.toNat = 0
    · simp [hz, offsets]
    · simp [hfit, hz, offsets, visible, Nat.not_lt.mpr hfit]
  · simp [hfit, Nat.lt_of_not_le hfit, offsets]

/-- the loop invariant: positioned on a complete element at offset `off`, the caller's do/while loop
reports what is `visible` from there -/
theorem iterLoop_drop (bs : Bytes) (fuel off : Nat) (n l : UInt8) (rest : Bytes) (h : bs.drop off = n :: l :: rest)
    (hfit : l.toNat ≤ rest.length) (hf : rest.length - l.toNat < fuel) :
    iterLoop bs fuel ⟨off, off + 2, off + 2 + l.toNat, bs.length - 1⟩
      = .ok (visible (offsets off (parse (n :: l :: rest)))) := by
  induction fuel generalizing off n l rest with
  | zero => exact absurd hf (Nat.not_lt_zero _)
  | succ fuel ih =>
    have h0 : rd "tags" bs off = .ok n := rd_of_drop (k := 0) (by rw [h]; rfl)
    have h1 : rd "tags" bs (off + 1) = .ok l := rd_of_drop (k := 1) (by rw [h]; rfl)
    have hd : bs.drop (off + 2 + l.toNat) = rest.drop l.toNat := drop_next h _
    rw [parse_cons, if_pos hfit, offsets, visible, List.length_take, Nat.min_eq_left hfit]
    unfold iterLoop current
    rw [h0, h1, iterNext_eq bs _ rfl]
    rw [Outcome.bind_ok, Outcome.bind_ok, Outcome.bind_ok, Outcome.bind_ok, hd]
    match h' : rest.drop l.toNat with
    | [] => rfl
    | [_] => rfl
    | n' :: l' :: rest' =>
      have hl' : rest.length - l.toNat = rest'.length + 2 := List.length_drop.symm.trans (congrArg List.length h')
      rw [hl'] at hf
      rw [takeWhile_offsets_parse_cons]
      dsimp only
      by_cases hs : l'.toNat = 0 ∨ rest'.length < l'.toNat
      · rw [if_pos hs, if_pos hs]
      · rw [if_neg hs, if_neg hs]
        dsimp only
        -- less is left behind the next element than behind this one
        rw [ih _ n' l' rest' (hd.trans h') (Nat.le_of_not_lt fun hlt => hs (Or.inr hlt))
          (Nat.lt_of_le_of_lt (Nat.sub_le _ _) (Nat.lt_of_succ_lt (Nat.lt_of_succ_lt_succ hf)))]
        rfl

end LWV
