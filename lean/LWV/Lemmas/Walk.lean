import LWV.Model.Mgmt
import LWV.Props.C06
/-
The element loop of the management parsers (`walkTags` over `foldElems`) against a fold with
refusal over the same elements, for any state type and any step: the loop in closed form (from
C06) and the simulation it inherits from one element; facts about a fold with refusal that hold
whatever the step is.
-/
namespace LWV
open LWV.Model LWV.Props

/-- fold with refusal: the shape of `Spec.bssReport` -/
abbrev foldOpt {ρ ε : Type} (g : ρ → ε → Option ρ) (r : Option ρ) (l : List ε) : Option ρ :=
  l.foldl (fun acc x => acc.bind fun r => g r x) r

section foldOpt
variable {ρ ε : Type} {g : ρ → ε → Option ρ}

theorem foldOpt_none (l : List ε) : foldOpt g none l = none := by
  induction l with
  | nil => rfl
  | cons x t ih => exact ih

theorem foldOpt_cons (r : ρ) (x : ε) (l : List ε) :
    foldOpt g (some r) (x :: l) = (g r x).bind fun r1 => foldOpt g (some r1) l := by
  show foldOpt g (g r x) l = _
  cases g r x with
  | none => exact foldOpt_none l
  | some r1 => rfl

/-- a fold that never refuses: the shape of `Spec.staReport` -/
theorem foldOpt_some (h : ρ → ε → ρ) (l : List ε) (r : ρ) :
    foldOpt (fun r x => some (h r x)) (some r) l = some (l.foldl h r) :=
  List.foldl_hom some fun _ _ => rfl

theorem foldOpt_total {l : List ε} (h : ∀ x ∈ l, ∀ r, ∃ r1, g r x = some r1) (r : ρ) :
    ∃ r', foldOpt g (some r) l = some r' := by
  induction l generalizing r with
  | nil => exact ⟨r, rfl⟩
  | cons x t ih =>
    obtain ⟨r1, h1⟩ := h x List.mem_cons_self r
    rw [foldOpt_cons, h1]
    exact ih (fun y hy => h y (List.mem_cons_of_mem _ hy)) r1

/-- A component `v` of the state that the elements of a class `C` bring into `p` (from a value in
`I`, which `p` implies) and the others leave alone: at the end it is in `p` if it was at the start
or an element of `C` was folded in, and unchanged if none was. -/
theorem foldOpt_latch {α : Type} {I p : α → Prop} {C : ε → Prop} {v : ρ → α} (hpI : ∀ a, p a → I a)
    (step : ∀ {r x r1}, g r x = some r1 → (I (v r) → C x → p (v r1)) ∧ (¬ C x → v r1 = v r))
    {l : List ε} {r r' : ρ} (hI : I (v r)) (h : foldOpt g (some r) l = some r') :
    (p (v r) → p (v r')) ∧ ((∃ x ∈ l, C x) → p (v r')) ∧ ((∀ x ∈ l, ¬ C x) → v r' = v r) := by
  induction l generalizing r with
  | nil =>
    cases h
    exact ⟨id, fun h => h.elim fun _ hx => absurd hx.1 List.not_mem_nil, fun _ => rfl⟩
  | cons x t ih =>
    rw [foldOpt_cons] at h
    obtain ⟨r1, hs, hf⟩ := Option.bind_eq_some_iff.mp h
    obtain ⟨set, same⟩ := step hs
    obtain ⟨hk, hI1⟩ : (p (v r) → p (v r1)) ∧ I (v r1) := by
      by_cases hc : C x
      · exact ⟨fun _ => set hI hc, hpI _ (set hI hc)⟩
      · rw [same hc]; exact ⟨id, hI⟩
    obtain ⟨keep, ex, all⟩ := ih hI1 hf
    refine ⟨fun hp => keep (hk hp), fun h => ?_, fun hno => ?_⟩
    · obtain ⟨y, hy, hc⟩ := h
      rcases List.mem_cons.mp hy with rfl | hy
      · exact keep (set hI hc)
      · exact ex ⟨y, hy, hc⟩
    · rw [all fun y hy => hno y (List.mem_cons_of_mem _ hy)]
      exact same (hno x List.mem_cons_self)

end foldOpt

theorem foldElems_sim {σ ρ ε : Type} {R : σ → ρ → Prop} {f : σ → Spec.ElemAt → Outcome σ} {g : ρ → ε → Option ρ}
    {c : Spec.ElemAt → ε} {es : List Spec.ElemAt}
    (step : ∀ e ∈ es, ∀ s r, R s r → Sim R (f s e) (g r (c e))) :
    ∀ s r, R s r → Sim R (foldElems f s es) (foldOpt g (some r) (es.map c)) := by
  induction es with
  | nil => intro s r h; exact Sim.ok h
  | cons e t ih =>
    intro s r h
    rw [List.map_cons, foldOpt_cons]
    exact (step e List.mem_cons_self s r h).bind (ih fun e he => step e (List.mem_cons_of_mem _ he))

/-- `walkTags` in closed form (C06): the loop runs over the visible elements of a region whose first
element fits, and any refusal becomes -EINVAL -/
theorem walkTags_eq {σ} (tags : Bytes) (f : σ → Spec.ElemAt → Outcome σ) (s0 : σ) (g : σ → Parsed) :
    walkTags tags f s0 g =
      if Spec.firstFits tags then
        (match foldElems f s0 (Spec.visible (Spec.parseAt tags)) with
          | .ok b => .ok (g b) | .err _ => .err (-EINVAL) | .fault x => .fault x)
      else .err (-EINVAL) := by
  unfold walkTags
  rw [C06.C06_exact]
  by_cases hfit : Spec.firstFits tags
  · rw [if_pos hfit, if_pos hfit]; rfl
  · rw [if_neg hfit, if_neg hfit]

theorem walkTags_sim {σ ρ ε : Type} {R : σ → ρ → Prop} {tags : Bytes} {f : σ → Spec.ElemAt → Outcome σ}
    {g : ρ → ε → Option ρ} {c : Spec.ElemAt → ε} (mk : σ → Parsed)
    (step : ∀ e, e.off + 2 + e.len ≤ tags.length → ∀ s r, R s r → Sim R (f s e) (g r (c e)))
    (s0 : σ) (r0 : ρ) (h0 : R s0 r0) :
    Sim (fun p r => ∃ s, p = mk s ∧ R s r) (walkTags tags f s0 mk)
      (if Spec.firstFits tags then foldOpt g (some r0) ((Spec.visible (Spec.parseAt tags)).map c) else none) := by
  rw [walkTags_eq]
  refine Sim.ite (fun hfit => ?_) fun _ => Sim.err
  have hrep : reported tags = .ok (Spec.visible (Spec.parseAt tags)) := by rw [C06.C06_exact, if_pos hfit]
  -- the iterator reports only elements that lie inside the region: `step` is needed for those alone
  have hin := (C06.C06_sound tags _ hrep).2
  refine (foldElems_sim (g := g) (c := c) (fun e he => step e (hin e he).1) s0 r0 h0).elim (fun h => ?_) fun s r hs hr => ?_
  · rw [h]; exact Sim.err
  · rw [hs]; exact Sim.ok ⟨s, rfl, hr⟩

end LWV
