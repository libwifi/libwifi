import LWV.Lemmas.Tlv
import LWV.Lemmas.Endian
import LWV.Spec.TagsRef
/-
Lemmas about `encode` / `parse` round trips and byte-level surgery on encoded lists.
-/
namespace LWV
open LWV.Spec

def bodiesOk (es : List Elem) : Prop := ∀ e ∈ es, e.body.length ≤ 255

theorem bodiesOk_cons {e : Elem} {t : List Elem} : bodiesOk (e :: t) ↔ e.body.length ≤ 255 ∧ bodiesOk t :=
  List.forall_mem_cons

theorem encode_cons (e : Elem) (t : List Elem) : encode (e :: t) = encodeElem e ++ encode t :=
  List.flatMap_cons

theorem encode_append (a b : List Elem) : encode (a ++ b) = encode a ++ encode b :=
  List.flatMap_append

theorem encode_snoc (es : List Elem) (e : Elem) : encode es ++ encodeElem e = encode (es ++ [e]) := by
  rw [encode_append]
  exact congrArg _ (List.append_nil _).symm

theorem bodiesOk_snoc {es : List Elem} {e : Elem} (h : bodiesOk es) (he : e.body.length ≤ 255) : bodiesOk (es ++ [e]) :=
  List.forall_mem_append.mpr ⟨h, List.forall_mem_singleton.mpr he⟩

theorem encodeElem_length (e : Elem) : (encodeElem e).length = 2 + e.body.length :=
  Nat.add_comm _ 2

theorem parse_encode (es : List Elem) (h : bodiesOk es) : parse (encode es) = es := by
  induction es with
  | nil => rfl
  | cons e t ih =>
    obtain ⟨he, ht⟩ := bodiesOk_cons.mp h
    rw [encode_cons, encodeElem, List.cons_append, List.cons_append, parse_cons, uint8_toNat_ofNat_le he,
      if_pos (Nat.le_trans (Nat.le_add_right _ _) (Nat.le_of_eq List.length_append.symm)),
      List.take_left' rfl, List.drop_left' rfl, ih ht]

theorem parseAt_encode (es : List Elem) (h : bodiesOk es) : parseAt (encode es) = offsets 0 es := by
  rw [parseAt_eq_offsets, parse_encode es h]

theorem parseF_bodiesOk (f : Nat) (bs : Bytes) : bodiesOk (parseF f bs) := by
  fun_induction parseF f bs with
  | case1 => exact nofun
  | case2 fuel n l rest h ih =>
    exact bodiesOk_cons.mpr ⟨Nat.le_trans (List.length_take_le _ _) (Nat.le_of_lt_succ l.toNat_lt), ih⟩
  | case3 => exact nofun
  | case4 => exact nofun

theorem wf_iff (bs : Bytes) : wf bs = true ↔ encode (parse bs) = bs :=
  beq_iff_eq

theorem wf_encode (es : List Elem) (h : bodiesOk es) : wf (encode es) = true := by
  rw [wf_iff, parse_encode es h]

theorem firstFits_encode {es : List Elem} (h : bodiesOk es) : firstFits (encode es) ↔ es ≠ [] := by
  rw [firstFits_iff, parse_encode es h]

theorem takeWhile_offsets_append (b : Nat) (t : List Elem) (h : t.all (fun e => !e.body.isEmpty) = true) (rest : List ElemAt) :
    (offsets b t ++ rest).takeWhile (fun x => x.len ≠ 0) = offsets b t ++ rest.takeWhile (fun x => x.len ≠ 0) := by
  apply List.takeWhile_append_of_pos
  induction t generalizing b with
  | nil => exact nofun
  | cons x u ih =>
    simp only [List.all_cons, Bool.and_eq_true, Bool.not_eq_true', List.isEmpty_eq_false_iff] at h
    intro a ha
    rcases List.mem_cons.mp ha with rfl | ha
    · exact decide_eq_true fun h0 => h.1 (List.eq_nil_of_length_eq_zero h0)
    · exact ih _ h.2 a ha

theorem visible_offsets (base : Nat) (es : List Elem) (h : noInnerEmpty es = true) :
    visible (offsets base es) = offsets base es := by
  cases es with
  | nil => rfl
  | cons e t =>
    have := takeWhile_offsets_append (base + 2 + e.body.length) t h []
    rw [List.append_nil, List.takeWhile_nil, List.append_nil] at this
    exact congrArg (List.cons _) this

theorem length_cut {bs : Bytes} {i k : Nat} (h : i + 2 + k ≤ bs.length) :
    (bs.take i ++ bs.drop (i + 2 + k)).length = bs.length - (2 + k) := by
  obtain ⟨m, hm⟩ := Nat.exists_eq_add_of_le h
  -- with `bs.length = i + 2 + k + m` both sides are `i + m`
  rw [List.length_append, List.length_take, List.length_drop, hm, Nat.add_sub_cancel_left,
    Nat.min_eq_left (Nat.le_add_right_of_le (Nat.le_add_right_of_le (Nat.le_add_right i 2)))]
  exact Nat.eq_sub_of_add_eq ((Nat.add_right_comm i m (2 + k)).trans (by rw [← Nat.add_assoc]))

/-- byte surgery: cutting the first element whose number satisfies `p` out of the encoded bytes
gives the encoding of the list with that element erased -/
theorem splice_erase (p : UInt8 → Bool) (es : List Elem) (pre : Bytes) (a : ElemAt)
    (h : (offsets pre.length es).find? (fun a => p a.num) = some a) :
    (pre ++ encode es).take a.off ++ (pre ++ encode es).drop (a.off + 2 + a.len)
        = pre ++ encode (es.eraseP (fun e => p e.num)) ∧ a.off + 2 + a.len ≤ (pre ++ encode es).length := by
  induction es generalizing pre with
  | nil => cases h
  | cons e t ih =>
    have hl : (pre ++ encodeElem e).length = pre.length + 2 + e.body.length := by
      rw [List.length_append, encodeElem_length, Nat.add_assoc]
    by_cases hp : p e.num = true
    · simp only [offsets, List.find?_cons, hp, Option.some.injEq] at h
      subst h
      simp only [hp, List.eraseP_cons, cond_true]
      rw [encode_cons, List.take_left, ← List.append_assoc, ← hl, List.drop_left]
      exact ⟨rfl, Nat.le_trans (Nat.le_add_right _ _) (Nat.le_of_eq List.length_append.symm)⟩
    · simp only [offsets, List.find?_cons, hp, ← hl] at h
      simp only [hp, List.eraseP_cons, cond_false]
      rw [encode_cons, encode_cons, ← List.append_assoc, ← List.append_assoc]
      exact ih _ h

theorem offsets_append (b : Nat) (a c : List Elem) :
    offsets b (a ++ c) = offsets b a ++ offsets (b + (encode a).length) c := by
  induction a generalizing b with
  | nil => rfl
  | cons e t ih =>
    simp only [List.cons_append, offsets, ih, encode_cons, List.length_append, encodeElem_length]
    rw [← Nat.add_assoc, ← Nat.add_assoc]

/-- with no inner empty element in `es`, everything of `es` stays visible when one more element
is appended -/
theorem offsets_prefix_visible_append (b : Nat) (es : List Elem) (x : Elem) (h : noInnerEmpty es = true) :
    offsets b es <+: visible (offsets b (es ++ [x])) := by
  cases es with
  | nil => exact List.nil_prefix
  | cons e t =>
    rw [List.cons_append, offsets, offsets, offsets_append, visible, takeWhile_offsets_append _ t h]
    exact (List.prefix_cons_inj _).mpr (List.prefix_append _ _)

theorem countP_offsets (p : UInt8 → Bool) (base : Nat) (es : List Elem) :
    (offsets base es).countP (fun a => p a.num) = es.countP (fun e => p e.num) := by
  induction es generalizing base with
  | nil => rfl
  | cons e t ih => simp only [offsets, List.countP_cons, ih]

theorem find?_offsets_of_countP (p : UInt8 → Bool) (b : Nat) (es : List Elem) (h : 0 < es.countP (fun e => p e.num)) :
    ∃ a, (offsets b es).find? (fun a => p a.num) = some a := by
  rw [← countP_offsets p b] at h
  exact Option.isSome_iff_exists.mp (List.find?_isSome.mpr (List.countP_pos_iff.mp h))

theorem eraseP_of_find?_offsets_none (p : UInt8 → Bool) (b : Nat) (es : List Elem)
    (h : (offsets b es).find? (fun a => p a.num) = none) : es.eraseP (fun e => p e.num) = es := by
  have hc : (offsets b es).countP (fun a => p a.num) = 0 := List.countP_eq_zero.mpr (List.find?_eq_none.mp h)
  rw [countP_offsets] at hc
  exact List.eraseP_of_forall_not (List.countP_eq_zero.mp hc)

end LWV
