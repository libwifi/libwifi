import LWV.Basic
/- little-endian encode/decode round trips, `UInt8.ofNat` in range, `testBit` beyond a bound -/
namespace LWV

theorem uint8_toNat_ofNat_le {n : Nat} (h : n ≤ 255) : (UInt8.ofNat n).toNat = n :=
  UInt8.toNat_ofNat_of_lt' (Nat.lt_succ_of_le h)

theorem testBit_of_lt {w b k : Nat} (hw : w < 2 ^ k) (hb : k ≤ b) : w.testBit b = false :=
  Nat.testBit_lt_two_pow (Nat.lt_of_lt_of_le hw (Nat.pow_le_pow_right (by decide) hb))

theorem leBytes_one (v : Nat) : leBytes 1 v = [UInt8.ofNat v] := by
  rw [leBytes, leBytes, UInt8.ofNat_mod_size]

theorem leBytes_length (n v : Nat) : (leBytes n v).length = n := by
  induction n generalizing v with
  | zero => rfl
  | succ n ih => simp [leBytes, ih]

theorem leBytes_leNat (bs : Bytes) : leBytes bs.length (leNat bs) = bs := by
  induction bs with
  | nil => rfl
  | cons b t ih =>
    have hb := b.toNat_lt
    have h1 : (b.toNat + 256 * leNat t) % 256 = b.toNat := by
      rw [Nat.add_mul_mod_self_left, Nat.mod_eq_of_lt hb]
    have h2 : (b.toNat + 256 * leNat t) / 256 = leNat t := by
      rw [Nat.add_mul_div_left _ _ (by decide), Nat.div_eq_of_lt hb, Nat.zero_add]
    rw [List.length_cons, leBytes, leNat, h1, h2, ih, UInt8.ofNat_toNat]

theorem leNat_leBytes (n v : Nat) : leNat (leBytes n v) = v % 256 ^ n := by
  induction n generalizing v with
  | zero => exact (Nat.mod_one v).symm
  | succ n ih =>
    rw [leBytes, leNat, ih, uint8_toNat_ofNat_le (Nat.le_of_lt_succ (Nat.mod_lt v (by decide))), Nat.pow_succ,
      Nat.mul_comm (256 ^ n), Nat.mod_mul]

theorem leNat_lt (bs : Bytes) : leNat bs < 256 ^ bs.length := by
  have h : leNat bs = leNat bs % 256 ^ bs.length := by rw [← leNat_leBytes, leBytes_leNat]
  rw [h]
  exact Nat.mod_lt _ (Nat.pow_pos (by decide))

theorem eq_leNat_iff {bs : Bytes} {v : Nat} (hv : v < 256 ^ bs.length) :
    v = leNat bs ↔ bs = leBytes bs.length v := by
  constructor
  · intro h
    rw [h, leBytes_leNat]
  · intro h
    rw [h, leNat_leBytes]
    exact (Nat.mod_eq_of_lt hv).symm

end LWV
