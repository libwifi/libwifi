import LWV.Basic
/-
Checked reads that stay inside the buffer, a successful bind taken apart, guards that merge, and the relation `Sim`
between a model routine's outcome and the optional value its specification assigns to the same input.
-/
namespace LWV

theorem rd_getD {w : String} {bs : Bytes} {i : Nat} (h : i < bs.length) : rd w bs i = .ok (bs.getD i 0) := by
  rw [rd_ok h, List.getElem_eq_getD 0]

theorem rdSlice_ok {w : String} {bs : Bytes} {off n : Nat} (h : off + n ≤ bs.length) :
    rdSlice w bs off n = .ok ((bs.drop off).take n) := if_pos h

theorem rdSlice_rest {w : String} {bs : Bytes} {off n : Nat} (h : off + n = bs.length) :
    rdSlice w bs off n = .ok (bs.drop off) := by
  rw [rdSlice_ok (Nat.le_of_eq h), List.take_of_length_le (Nat.le_of_eq (by rw [List.length_drop, ← h, Nat.add_sub_cancel_left]))]

/-- A parser checks once that `k` octets are present and then reads at constant offsets below `k`:
with `hk` fixed, the side conditions of these two are closed numerals. -/
theorem rd_of_le {w : String} {bs : Bytes} {k i : Nat} (hk : k ≤ bs.length) (hi : i < k) :
    rd w bs i = .ok (bs.getD i 0) := rd_getD (Nat.lt_of_lt_of_le hi hk)

theorem rdSlice_of_le {w : String} {bs : Bytes} {k off n : Nat} (hk : k ≤ bs.length) (h : off + n ≤ k) :
    rdSlice w bs off n = .ok ((bs.drop off).take n) := rdSlice_ok (Nat.le_trans h hk)

theorem rdSlice_clamped {w : String} {bs : Bytes} {off n : Nat} (h : off ≤ bs.length) :
    rdSlice w bs off (min n (bs.length - off)) = .ok ((bs.drop off).take n) := by
  rw [rdSlice_ok (Nat.add_le_of_le_sub' h (Nat.min_le_right ..)), ← List.length_drop, ← List.take_eq_take_min]

theorem rd_of_drop {w : String} {bs : Bytes} {off k : Nat} {b : UInt8} (h : (bs.drop off)[k]? = some b) :
    rd w bs (off + k) = .ok b := by
  unfold rd
  rw [← List.getElem?_drop, h]

theorem Outcome.bind_eq_ok {α β} {x : Outcome α} {f : α → Outcome β} {b : β} (h : (x >>= f) = .ok b) :
    ∃ a, x = .ok a ∧ f a = .ok b := by
  cases x with
  | ok a => exact ⟨a, rfl, h⟩
  | err c => cases h
  | fault c => cases h

theorem ite_and {α : Sort _} (p q : Prop) [Decidable p] [Decidable q] (x y : α) :
    (if p ∧ q then x else y) = if p then if q then x else y else y := by
  by_cases hp : p
  · simp only [hp, true_and, if_true]
  · simp only [hp, false_and, if_false]

/-- a guard is redundant before a weaker guard with the same exit -/
theorem ite_absorb {α} {c₁ c₂ : Prop} [Decidable c₁] [Decidable c₂] (h : c₁ → c₂) (a b : α) :
    (if c₁ then a else if c₂ then a else b) = if c₂ then a else b := by
  by_cases h1 : c₁
  · rw [if_pos h1, if_pos (h h1)]
  · rw [if_neg h1]

/-- the C idiom `if (p > end) return x; if (end - p < b) return x;` is one comparison -/
theorem ite_sub_guard {α} (n a b : Nat) (x y : α) :
    (if n < a then x else if n - a < b then x else y) = if n < a + b then x else y := by
  by_cases h : n < a
  · rw [if_pos h, if_pos (Nat.lt_add_right b h)]
  · rw [if_neg h]
    exact ite_congr (propext (Nat.sub_lt_iff_lt_add' (Nat.not_lt.1 h))) (fun _ => rfl) (fun _ => rfl)

theorem Outcome.guard_bind {α β} (c : Prop) [Decidable c] (e : Int) (x : Outcome α) (f : α → Outcome β) :
    ((if c then .err e else x) >>= f) = if c then .err e else x >>= f :=
  apply_ite (· >>= f) c (.err e) x

/-- `o` decides the optional specification value `s`: it refuses with `-EINVAL` exactly when the
specification assigns no value, and otherwise returns a value related to the specification's by `R`. -/
inductive Sim {α β} (R : α → β → Prop) : Outcome α → Option β → Prop
  | err : Sim R (.err (-EINVAL)) none
  | ok {a : α} {b : β} (h : R a b) : Sim R (.ok a) (some b)

namespace Sim
variable {α β γ δ : Type} {R R' : α → β → Prop} {Q : γ → δ → Prop} {o : Outcome α} {s : Option β}

/-- case analysis on the specification's value, for goals that mention it (statements written as a
`match` on it) -/
@[elab_as_elim]
theorem elim {motive : Option β → Prop} (h : Sim R o s) (none : o = .err (-EINVAL) → motive none)
    (some : ∀ a b, o = .ok a → R a b → motive (some b)) : motive s := by
  cases h with
  | err => exact none rfl
  | ok hr => exact some _ _ rfl hr

theorem mono (hR : ∀ a b, R a b → R' a b) (h : Sim R o s) : Sim R' o s := by
  cases h with
  | err => exact err
  | ok hr => exact ok (hR _ _ hr)

theorem bind {f : α → Outcome γ} {g : β → Option δ} (h : Sim R o s) (hf : ∀ a b, R a b → Sim Q (f a) (g b)) :
    Sim Q (o >>= f) (s.bind g) := by
  cases h with
  | err => exact err
  | ok hr => exact hf _ _ hr

theorem none_iff (h : Sim R o s) : s = none ↔ o = .err (-EINVAL) := by
  cases h with
  | err => exact ⟨fun _ => rfl, fun _ => rfl⟩
  | ok _ => exact ⟨nofun, nofun⟩

theorem of_some {b : β} (h : Sim R o (some b)) : ∃ a, o = .ok a ∧ R a b := by
  cases h with
  | ok hr => exact ⟨_, rfl, hr⟩

theorem exists_of_ok (h : Sim R o s) {a : α} (ha : o = .ok a) : ∃ b, s = some b ∧ R a b := by
  cases h with
  | err => cases ha
  | ok hr => cases ha; exact ⟨_, rfl, hr⟩

theorem ok_iff (h : Sim R o s) : (∃ a, o = .ok a) ↔ s.isSome = true := by
  cases h with
  | err => exact ⟨fun ⟨_, ha⟩ => (nomatch ha), fun hs => (nomatch hs)⟩
  | ok _ => exact ⟨fun _ => rfl, fun _ => ⟨_, rfl⟩⟩

theorem ite {c : Prop} [Decidable c] {o o' : Outcome α} {s s' : Option β}
    (h : c → Sim R o s) (h' : ¬ c → Sim R o' s') : Sim R (if c then o else o') (if c then s else s') := by
  by_cases hc : c
  · rw [if_pos hc, if_pos hc]; exact h hc
  · rw [if_neg hc, if_neg hc]; exact h' hc

/-- the two halves of `Sim` that C01 (`NoFault`) and `C01_error_codes` (`ErrInval`) state: these are those predicates unfolded -/
theorem not_fault (h : Sim R o s) (f : Fault) : o ≠ .fault f := by
  cases h <;> nofun

theorem eq_of_err (h : Sim R o s) (c : Int) (hc : o = .err c) : c = -EINVAL := by
  cases h with
  | err => cases hc; rfl
  | ok _ => cases hc

end Sim
end LWV
