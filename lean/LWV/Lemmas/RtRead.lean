import LWV.Model.Radiotap
import LWV.Spec.Radiotap
import LWV.Lemmas.Endian
import LWV.Lemmas.Outcome
/-
Little-endian reads of radiotap octets.  The Spec's `u8 … u64` are `leNat` of a slice — with no
condition on the offset, since both sides read a missing octet as 0 — and the model's checked reads
inside the buffer return the Spec's values; `RtArgOk` says that the field the iterator stands on is
inside the buffer.
-/
namespace LWV

theorem slice_mid (A V X : Bytes) (j n : Nat) (h : j + n ≤ V.length) :
    ((A ++ V ++ X).drop (A.length + j)).take n = (V.drop j).take n := by
  rw [List.append_assoc, List.drop_append, List.drop_eq_nil_of_le (Nat.le_add_right _ _), List.nil_append,
    Nat.add_sub_cancel_left, List.drop_append_of_le_length (Nat.le_trans (Nat.le_add_right j n) h),
    List.take_append_of_le_length (by rw [List.length_drop]; exact Nat.le_sub_of_add_le' h)]

end LWV

namespace LWV.Spec
open LWV

theorem leNat_take_succ (bs : Bytes) (i n : Nat) :
    leNat ((bs.drop i).take (n + 1)) = u8 bs i + 256 * leNat ((bs.drop (i + 1)).take n) := by
  by_cases h : i < bs.length
  · rw [List.drop_eq_getElem_cons h, List.take_succ_cons]
    simp [leNat, u8, List.getD_eq_getElem?_getD, List.getElem?_eq_getElem h]
  · rw [List.drop_eq_nil_of_le (Nat.le_of_not_lt h), List.drop_eq_nil_of_le (Nat.le_succ_of_le (Nat.le_of_not_lt h))]
    simp [leNat, u8, List.getD_eq_getElem?_getD, List.getElem?_eq_none (Nat.le_of_not_lt h)]

theorem leNat_take_add (bs : Bytes) (m n : Nat) : ∀ i : Nat,
    leNat ((bs.drop i).take (m + n)) =
      leNat ((bs.drop i).take m) + 256 ^ m * leNat ((bs.drop (i + m)).take n) := by
  induction m with
  | zero => intro i; simp [leNat]
  | succ m ih =>
    intro i
    rw [Nat.add_right_comm, leNat_take_succ, leNat_take_succ, ih (i + 1), Nat.pow_succ,
      Nat.add_assoc i 1 m, Nat.add_comm 1 m, Nat.mul_add, Nat.add_assoc, Nat.mul_comm (256 ^ m) 256, Nat.mul_assoc]

theorem u8_eq_leNat (bs : Bytes) (i : Nat) : u8 bs i = leNat ((bs.drop i).take 1) := by
  rw [leNat_take_succ]; simp [leNat]

theorem u16_eq_leNat (bs : Bytes) (i : Nat) : u16 bs i = leNat ((bs.drop i).take 2) := by
  rw [leNat_take_add bs 1 1, ← u8_eq_leNat, ← u8_eq_leNat]; rfl

theorem u32_eq_leNat (bs : Bytes) (i : Nat) : u32 bs i = leNat ((bs.drop i).take 4) := by
  rw [leNat_take_add bs 2 2, ← u16_eq_leNat, ← u16_eq_leNat]; rfl

theorem u64_eq_leNat (bs : Bytes) (i : Nat) : u64 bs i = leNat ((bs.drop i).take 8) := by
  rw [leNat_take_add bs 4 4, ← u32_eq_leNat, ← u32_eq_leNat]; rfl

end LWV.Spec

namespace LWV.Model
open LWV

theorem le16At_u16 {what : String} {bs : Bytes} {i : Nat} (h : i + 2 ≤ bs.length) :
    le16At what bs i = .ok (Spec.u16 bs i) := by
  unfold le16At
  rw [rd_getD (Nat.lt_of_succ_lt h), rd_getD (show i + 1 < bs.length from h)]
  rfl

theorem le16At_bound {what : String} {bs : Bytes} {i n : Nat} (h : le16At what bs i = .ok n) : i + 2 ≤ bs.length := by
  apply Decidable.byContradiction
  intro hc
  unfold le16At at h
  have : rd what bs (i + 1) = .fault (.oobRead what (i + 1) bs.length) := by
    unfold rd; rw [List.getElem?_eq_none (Nat.le_of_lt_succ (Nat.lt_of_not_le hc))]
  rw [this] at h
  cases hr : rd what bs i <;> rw [hr] at h <;> cases h

theorem le32At_u32 {what : String} {bs : Bytes} {i : Nat} (h : i + 4 ≤ bs.length) :
    le32At what bs i = .ok (Spec.u32 bs i) := by
  rw [Spec.u32_eq_leNat, le32At, rdSlice_ok h]; rfl

theorem le64At_u64 {what : String} {bs : Bytes} {i : Nat} (h : i + 8 ≤ bs.length) :
    le64At what bs i = .ok (Spec.u64 bs i) := by
  rw [Spec.u64_eq_leNat, le64At, rdSlice_ok h]; rfl

/-- sizes of the fields the parser reads, from the regenerated table -/
theorem rtSize_handled :
    rtSize 1 = 1 ∧ rtSize 2 = 1 ∧ rtSize 3 = 4 ∧ rtSize 5 = 1 ∧ rtSize 10 = 1 ∧ rtSize 11 = 1 ∧
    rtSize 14 = 2 ∧ rtSize 15 = 2 ∧ rtSize 16 = 1 ∧ rtSize 17 = 1 ∧ rtSize 19 = 3 ∧ rtSize 22 = 12 := by
  decide +kernel

/-- the argument of the current field lies inside the buffer, unless the field is one `rtField` ignores
(0: where `rtInit` leaves the iterator; 30: a vendor namespace descriptor) -/
def RtArgOk (bs : Bytes) (it : RtIt) : Prop :=
  it.thisArgIndex ≠ 0 → it.thisArgIndex ≠ 30 → it.thisArg + rtSize it.thisArgIndex ≤ bs.length

theorem pow_shift (w b : Nat) : w / 2 ^ b / 2 = w / 2 ^ (b + 1) := by
  rw [Nat.div_div_eq_div_mul, Nat.pow_succ]

end LWV.Model
