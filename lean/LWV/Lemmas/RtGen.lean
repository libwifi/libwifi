import LWV.Model.Radiotap
import LWV.Spec.Radiotap
import LWV.Lemmas.Endian
import LWV.Lemmas.Assoc
/-
The radiotap table and the generator loop: the Spec's table is the library's regenerated table without
the undefined fields, `Spec.alignUp` in closed form, and the loop of `libwifi_create_radiotap` — for every
description whose worst case fits the staging area it succeeds with the Spec encoder's fold.  That fold is taken
by field number (`encStep`), which is how the generator's loop and the decoder's walk of a present word both go.
-/
namespace LWV
open LWV.Model

/-- the Spec row the regenerated table holds for field `b`; none when the library does not define the field -/
def rtRow (b : Nat) : Option (Nat × Nat × Nat) := if rtAlign b = 0 then none else some (b, rtAlign b, rtSize b)

theorem rtRow_key (b : Nat) (r : Nat × Nat × Nat) (h : rtRow b = some r) : r.1 = b := by
  unfold rtRow at h
  split at h
  · cases h
  · cases h; rfl

theorem rtRow_none {b : Nat} (h : rtAlign b = 0) : rtRow b = none := if_pos h

theorem rtRow_some {b : Nat} (h : rtAlign b ≠ 0) : rtRow b = some (b, rtAlign b, rtSize b) := if_neg h

theorem rtTable_eq : Spec.rtTable = (List.range Gen.rtapNBits).filterMap rtRow := by decide +kernel

theorem rtAlign_ge {b : Nat} (h : Gen.rtapNBits ≤ b) : rtAlign b = 0 := by
  unfold rtAlign
  rw [List.getD_eq_getElem?_getD, List.getElem?_eq_none h]
  rfl

theorem rtAlign_lt {b : Nat} (h : rtAlign b ≠ 0) : b < Gen.rtapNBits :=
  Nat.lt_of_not_le fun hb => h (rtAlign_ge hb)

theorem rtapSizes_dvd : ∀ b < Gen.rtapNBits, rtAlign b ≠ 0 → 8 % rtAlign b = 0 := by decide +kernel

/-- every alignment divides 8, so the eight octets of the fixed header do not disturb it -/
theorem rtAlign_dvd {b : Nat} (h : rtAlign b ≠ 0) : 8 % rtAlign b = 0 := rtapSizes_dvd b (rtAlign_lt h) h

theorem rtTable_find? (b : Nat) : Spec.rtTable.find? (fun e => e.1 == b) = rtRow b := by
  rw [rtTable_eq, find?_filterMap_range rtRow rtRow_key]
  exact ite_eq_left_iff.2 fun hb => (rtRow_none (rtAlign_ge (Nat.le_of_not_lt hb))).symm

theorem alignUp_eq (off a : Nat) (ha : 0 < a) :
    Spec.alignUp off a = if off % a ≠ 0 then off + (a - off % a) else off := by
  unfold Spec.alignUp
  have hdm := Nat.div_add_mod off a
  have hlt := Nat.mod_lt off ha
  generalize off / a = q at hdm
  generalize off % a = r at hdm hlt ⊢
  subst hdm
  -- `a * q + r + a - 1` is `a * q + (a - 1)` for `r = 0` and `a * (q + 1) + (r - 1)` otherwise
  by_cases hr : r = 0
  · subst hr
    rw [if_neg (not_not_intro rfl), Nat.add_zero, Nat.add_sub_assoc ha, Nat.mul_add_div ha,
      Nat.div_eq_of_lt (Nat.sub_lt ha Nat.one_pos), Nat.add_zero, Nat.mul_comm]
  · rw [if_pos hr, Nat.add_right_comm, Nat.add_sub_assoc (Nat.pos_of_ne_zero hr), ← Nat.mul_succ, Nat.mul_add_div ha,
      Nat.div_eq_of_lt (Nat.lt_of_le_of_lt (Nat.sub_le r 1) hlt), Nat.add_zero, Nat.mul_comm, Nat.mul_succ,
      Nat.add_assoc, Nat.add_sub_cancel' (Nat.le_of_lt hlt)]

theorem alignUp_ge (off a : Nat) (ha : 0 < a) : off ≤ Spec.alignUp off a := by
  rw [alignUp_eq off a ha]
  split
  · exact Nat.le_add_right _ _
  · exact Nat.le_refl _

/-- padding after `n` octets that follow `k` octets, `k` a multiple of the alignment -/
theorem alignUp_pad (k n a : Nat) (ha : 0 < a) (hk : k % a = 0) :
    Spec.alignUp (k + n) a - (k + n) = (a - n % a) % a := by
  have hm : (k + n) % a = n % a := by rw [Nat.add_mod, hk, Nat.zero_add, Nat.mod_mod]
  rw [alignUp_eq _ _ ha, hm]
  by_cases hr : n % a = 0
  · rw [if_neg (not_not_intro hr), hr, Nat.sub_zero, Nat.mod_self, Nat.sub_self]
  · rw [if_pos hr, Nat.add_sub_cancel_left]
    exact (Nat.mod_eq_of_lt (Nat.sub_lt ha (Nat.pos_of_ne_zero hr))).symm

/-- the most one field can add to the staging area: worst-case padding plus its bytes -/
def rtWorst (g : RtGen) (f : Nat) : Nat := (rtAlign f - 1) + (rtGenField g f).length

theorem antenna_len (c a b : Nat) :
    ((List.range c).flatMap (fun _ => leBytes 1 a ++ leBytes 1 b)).length = 2 * c := by
  rw [List.length_flatMap, List.map_const', List.sum_replicate_nat, List.length_range, List.length_append,
    leBytes_length, leBytes_length, Nat.mul_comm]

/-- 11 is ANTENNA, for which the generator emits one (number, signal) pair per antenna -/
theorem rtGenField_length (g : RtGen) (f : Nat) :
    (rtGenField g f).length = (rtGenField {} f).length + if f = 11 then 2 * g.antennaCount else 0 := by
  unfold rtGenField
  split
  case h_4 => exact (antenna_len _ _ _).trans (Nat.zero_add _).symm
  case h_13 _ _ _ h11 _ _ _ _ _ _ _ _ => rw [if_neg h11]; rfl
  all_goals rfl

/-- the antenna field is the only one whose size depends on the description -/
theorem rtWorst_eq (g : RtGen) (f : Nat) :
    rtWorst g f = rtWorst {} f + if f = 11 then 2 * g.antennaCount else 0 := by
  unfold rtWorst
  rw [rtGenField_length g f, Nat.add_assoc]

theorem rtWorst_sum_list (g : RtGen) (fs : List Nat) :
    (fs.map (rtWorst g)).sum = (fs.map (rtWorst {})).sum + 2 * g.antennaCount * fs.count 11 := by
  induction fs with
  | nil => rfl
  | cons f t ih =>
    simp only [List.map_cons, List.sum_cons, List.count_cons, ih, rtWorst_eq g f, beq_iff_eq]
    split
    · rw [Nat.mul_add, Nat.mul_one, Nat.add_add_add_comm, Nat.add_comm (2 * g.antennaCount)]
    · rw [Nat.add_zero, Nat.add_zero, Nat.add_assoc]

theorem rtWorst_base : ((List.range Gen.rtapNBits).map (rtWorst {})).sum = 54 := by decide +kernel

theorem rtWorst_sum (g : RtGen) : ((List.range Gen.rtapNBits).map (rtWorst g)).sum = 54 + 2 * g.antennaCount := by
  rw [rtWorst_sum_list, rtWorst_base, List.count_range, if_pos (by decide), Nat.mul_one]

/-- the Spec encoder's body fold, one table entry at a time -/
def specStep (d : Spec.RtDesc) (acc : Bytes) (e : Nat × Nat × Nat) : Bytes :=
  if d.present.testBit e.1 then
    acc ++ List.replicate (Spec.alignUp (8 + acc.length) e.2.1 - (8 + acc.length)) 0 ++ d.value e.1
  else acc

theorem rtEncode_body (d : Spec.RtDesc) :
    Spec.rtEncode d = [0, 0] ++ leBytes 2 (8 + (Spec.rtTable.foldl (specStep d) []).length) ++ leBytes 4 d.present
      ++ Spec.rtTable.foldl (specStep d) [] := rfl

theorem rtEncode_length (d : Spec.RtDesc) :
    (Spec.rtEncode d).length = 8 + (Spec.rtTable.foldl (specStep d) []).length := by
  rw [rtEncode_body]
  simp only [List.length_append, List.length_cons, List.length_nil, leBytes_length]

/-- the same step by field number, as the generator's loop and a present word go through the fields: a
number the table has no row for adds nothing -/
def encStep (d : Spec.RtDesc) (acc : Bytes) (b : Nat) : Bytes :=
  if rtAlign b ≠ 0 then specStep d acc (b, rtAlign b, rtSize b) else acc

theorem foldl_encStep (d : Spec.RtDesc) (l : List Nat) (acc : Bytes) :
    l.foldl (encStep d) acc = (l.filterMap rtRow).foldl (specStep d) acc := by
  induction l generalizing acc with
  | nil => rfl
  | cons b t ih =>
    rw [List.foldl_cons, ih, encStep]
    by_cases ha : rtAlign b = 0
    · rw [List.filterMap_cons_none (rtRow_none ha), if_neg (not_not_intro ha)]
    · rw [List.filterMap_cons_some (rtRow_some ha), List.foldl_cons, if_pos ha]

/-- beyond `rtapNBits` there are no rows: any longer range of field numbers gives the same body -/
theorem rtTable_foldl (d : Spec.RtDesc) (acc : Bytes) (k : Nat) :
    Spec.rtTable.foldl (specStep d) acc = (List.range (Gen.rtapNBits + k)).foldl (encStep d) acc := by
  rw [foldl_encStep, List.range_add, List.filterMap_append, ← rtTable_eq, List.filterMap_eq_nil_iff.2, List.append_nil]
  intro a ha
  obtain ⟨j, _, rfl⟩ := List.mem_map.1 ha
  exact rtRow_none (rtAlign_ge (Nat.le_add_right _ _))

theorem encStep_undefined (d : Spec.RtDesc) (acc : Bytes) {b : Nat} (h : rtAlign b = 0) : encStep d acc b = acc :=
  if_neg (not_not_intro h)

theorem encStep_absent (d : Spec.RtDesc) (acc : Bytes) {b : Nat} (h : d.present.testBit b = false) :
    encStep d acc b = acc := by
  unfold encStep specStep
  rw [h, if_neg Bool.false_ne_true, ite_self]

theorem encStep_present (d : Spec.RtDesc) (acc : Bytes) {b : Nat} (h : d.present.testBit b = true) (hdef : rtAlign b ≠ 0) :
    encStep d acc b =
      acc ++ List.replicate (Spec.alignUp (8 + acc.length) (rtAlign b) - (8 + acc.length)) 0 ++ d.value b := by
  unfold encStep specStep
  rw [if_pos hdef, if_pos h]

theorem rtGenLoop_cons (g : RtGen) (f : Nat) (rest : List Nat) (data : Bytes)
    (h : data.length + rtWorst g f ≤ rtStagingCap) :
    rtGenLoop g (f :: rest) data = rtGenLoop g rest (encStep ⟨g.present, rtGenField g⟩ data f)
      ∧ (encStep ⟨g.present, rtGenField g⟩ data f).length ≤ data.length + rtWorst g f := by
  rw [rtGenLoop]
  by_cases ha : rtAlign f = 0
  · -- the loop skips an undefined field whatever its present bit
    rw [encStep_undefined _ data ha]
    simp only [ha, if_true, ite_self, true_and]
    exact Nat.le_add_right _ _
  · by_cases hp : g.present.testBit f = true
    · -- every alignment divides 8, so the Spec's padding, counted from the header start, is the loop's
      rw [encStep_present ⟨g.present, rtGenField g⟩ data hp ha,
        alignUp_pad 8 data.length (rtAlign f) (Nat.pos_of_ne_zero ha) (rtAlign_dvd ha)]
      simp only [ha, hp, if_true, if_false]
      refine ⟨if_neg (Nat.not_lt.2 (Nat.le_trans ?len h)), ?len⟩
      rw [List.length_append, List.length_append, List.length_replicate, Nat.add_assoc]
      exact Nat.add_le_add_left (Nat.add_le_add_right (Nat.le_sub_one_of_lt (Nat.mod_lt _ (Nat.pos_of_ne_zero ha))) _) _
    · rw [encStep_absent ⟨g.present, rtGenField g⟩ data (Bool.eq_false_iff.2 hp)]
      simp only [hp, Bool.false_eq_true, if_false, true_and]
      exact Nat.le_add_right _ _

theorem rtGenLoop_eq (g : RtGen) (fs : List Nat) (data : Bytes)
    (h : data.length + (fs.map (rtWorst g)).sum ≤ rtStagingCap) :
    rtGenLoop g fs data = .ok (fs.foldl (encStep ⟨g.present, rtGenField g⟩) data)
      ∧ (fs.foldl (encStep ⟨g.present, rtGenField g⟩) data).length ≤ data.length + (fs.map (rtWorst g)).sum := by
  induction fs generalizing data with
  | nil => exact ⟨rfl, Nat.le_add_right _ _⟩
  | cons f rest ih =>
    rw [List.map_cons, List.sum_cons, ← Nat.add_assoc] at h ⊢
    obtain ⟨h1, h2⟩ := rtGenLoop_cons g f rest data (Nat.le_trans (Nat.le_add_right _ _) h)
    obtain ⟨h3, h4⟩ := ih (encStep ⟨g.present, rtGenField g⟩ data f) (Nat.le_trans (Nat.add_le_add_right h2 _) h)
    exact ⟨by rw [h1, h3, List.foldl_cons], Nat.le_trans h4 (Nat.add_le_add_right h2 _)⟩

/-- the loop of `libwifi_create_radiotap` over all fields of the table, up to the documented 16 antennas: the
staging area `rtap_data` (120 octets) holds the worst case, 54 octets for the fields of fixed size with maximal
padding (`rtWorst_base`) and two per antenna -/
theorem rtGenLoop_table (g : RtGen) (ha : g.antennaCount ≤ 16) :
    rtGenLoop g (List.range Gen.rtapNBits) [] = .ok (Spec.rtTable.foldl (specStep ⟨g.present, rtGenField g⟩) [])
      ∧ (Spec.rtTable.foldl (specStep ⟨g.present, rtGenField g⟩) []).length ≤ 54 + 2 * g.antennaCount := by
  have hcap : rtStagingCap = 120 := by decide
  have h := rtGenLoop_eq g (List.range Gen.rtapNBits) [] (by rw [rtWorst_sum, hcap, List.length_nil]; omega)
  rwa [foldl_encStep, ← rtTable_eq, rtWorst_sum, List.length_nil, Nat.zero_add] at h

end LWV
