import LWV.Lemmas.RtRead
/-
`Spec.valueStep` taken apart: field `k` is a sequence of little-endian numbers of the widths `rtWidths k`, `reads`
decodes such a sequence at an offset, and `put` does with the numbers what `valueStep` does (`valueStep_eq_put`).
What depends on the octets is said once, about `reads`; what depends on the field, about `put`.
-/
namespace LWV.Spec
open LWV LWV.Model

/-- the Spec's own `u8` … `u64` by width, so that `valueStep_eq_put` holds by unfolding -/
def uLE : Nat → Bytes → Nat → Nat
  | 1 => u8
  | 2 => u16
  | 4 => u32
  | 8 => u64
  | w => fun bs i => leNat ((bs.drop i).take w)

theorem uLE_eq_leNat (w : Nat) (bs : Bytes) (i : Nat) : uLE w bs i = leNat ((bs.drop i).take w) := by
  unfold uLE
  split
  · exact u8_eq_leNat bs i
  · exact u16_eq_leNat bs i
  · exact u32_eq_leNat bs i
  · exact u64_eq_leNat bs i
  · rfl

/-- the numbers of the widths `ws` that follow one another from offset `o` on -/
def reads (bs : Bytes) : Nat → List Nat → List Nat
  | _, [] => []
  | o, w :: ws => uLE w bs o :: reads bs (o + w) ws

theorem reads_congr {bs bs' : Bytes} : ∀ (ws : List Nat) (o o' : Nat),
    (bs.drop o).take ws.sum = (bs'.drop o').take ws.sum → reads bs o ws = reads bs' o' ws := by
  intro ws
  induction ws with
  | nil => exact fun _ _ _ => rfl
  | cons w ws ih =>
    intro o o' h
    rw [List.sum_cons] at h
    have h1 := congrArg (List.take w) h
    have h2 := congrArg (List.drop w) h
    rw [List.take_take, List.take_take, Nat.min_eq_left (Nat.le_add_right w _)] at h1
    rw [List.drop_take, List.drop_take, Nat.add_sub_cancel_left, List.drop_drop, List.drop_drop] at h2
    rw [reads, reads, uLE_eq_leNat, uLE_eq_leNat, h1, ih (o + w) (o' + w) h2]

theorem reads_leBytes (w v : Nat) (X : Bytes) (ws : List Nat) :
    reads (leBytes w v ++ X) 0 (w :: ws) = v % 256 ^ w :: reads X 0 ws := by
  rw [reads, uLE_eq_leNat, List.drop_zero, List.take_left' (leBytes_length w v), leNat_leBytes,
    reads_congr (bs' := X) ws (0 + w) 0 (by rw [Nat.zero_add, List.drop_left' (leBytes_length w v), List.drop_zero])]

theorem reads_one (w v : Nat) : reads (leBytes w v) 0 [w] = [v % 256 ^ w] := by
  rw [← List.append_nil (leBytes w v), reads_leBytes]
  rfl

/-- the widths of the little-endian numbers `Spec.valueStep` reads in field `k`, in order; none for a field it ignores -/
def rtWidths : Nat → List Nat
  | 3 => [2, 2]
  | 14 | 15 => [2]
  | 19 => [1, 1, 1]
  | 22 => [8, 2, 1, 1]
  | 1 | 2 | 5 | 10 | 11 | 16 | 17 => [1]
  | _ => []

theorem rtWidths_le (k : Nat) : (rtWidths k).sum ≤ rtSize k := by
  unfold rtWidths
  split
  case h_13 => exact Nat.zero_le _
  all_goals decide

/-- `valueStep` on the numbers `ns` of the field in place of its octets -/
def put (k : Nat) (ns : List Nat) (maxAnt : Nat) (acc : RtValues × Bool) : RtValues × Bool :=
  let v := acc.1
  let n := fun i => ns.getD i 0
  match k with
  | 1 => ({ v with flags := n 0 }, acc.2)
  | 2 => ({ v with rateRaw := n 0 }, acc.2)
  | 3 =>
    let bc := channelOf (n 0)
    ({ v with chanFreq := n 0, chanFlags := n 1, chanBand := v.chanBand ||| bc.1,
              chanCenter := if bc.1 = 0 then v.chanCenter else bc.2 % 256 }, acc.2)
  | 5 =>
    if !acc.2 then ({ v with signal := n 0 }, true)
    else if v.antennas.length < maxAnt then ({ v with antennas := v.antennas ++ [(v.antennas.length, n 0)] }, acc.2)
    else acc
  | 10 => ({ v with txPower := n 0 }, acc.2)
  | 11 =>
    match v.antennas.getLast? with
    | some (_, s) => ({ v with antennas := v.antennas.dropLast ++ [(n 0, s)] }, acc.2)
    | none => acc
  | 14 => ({ v with rxFlags := n 0 }, acc.2)
  | 15 => ({ v with txFlags := n 0 }, acc.2)
  | 16 => ({ v with rtsRetries := n 0 }, acc.2)
  | 17 => ({ v with dataRetries := n 0 }, acc.2)
  | 19 => ({ v with mcs := (n 0, n 1, n 2) }, acc.2)
  | 22 => ({ v with ts := (n 0, n 1, n 2, n 3) }, acc.2)
  | _ => acc

theorem put_other {k : Nat} {ns : List Nat} {m : Nat} {s : RtValues × Bool}
    (hk : k ≠ 1 ∧ k ≠ 2 ∧ k ≠ 3 ∧ k ≠ 5 ∧ k ≠ 10 ∧ k ≠ 11 ∧ k ≠ 14 ∧ k ≠ 15 ∧ k ≠ 16 ∧ k ≠ 17 ∧ k ≠ 19 ∧ k ≠ 22) :
    put k ns m s = s := by
  unfold put
  split
  case h_13 => rfl
  all_goals exact absurd hk (by decide)

theorem valueStep_eq_put (bs : Bytes) (m : Nat) (s : RtValues × Bool) (k o : Nat) :
    valueStep bs m s ⟨k, o⟩ = put k (reads bs o (rtWidths k)) m s := by
  unfold valueStep
  dsimp only
  split
  case h_13 h1 h2 h3 h5 h10 h11 h14 h15 h16 h17 h19 h22 =>
    exact (put_other ⟨h1, h2, h3, h5, h10, h11, h14, h15, h16, h17, h19, h22⟩).symm
  all_goals rfl

theorem valueStep_other (bs : Bytes) (m : Nat) (s : RtValues × Bool) (f : RtField)
    (hk : f.field ≠ 1 ∧ f.field ≠ 2 ∧ f.field ≠ 3 ∧ f.field ≠ 5 ∧ f.field ≠ 10 ∧
      f.field ≠ 11 ∧ f.field ≠ 14 ∧ f.field ≠ 15 ∧ f.field ≠ 16 ∧ f.field ≠ 17 ∧
      f.field ≠ 19 ∧ f.field ≠ 22) : valueStep bs m s f = s := by
  rw [valueStep_eq_put, put_other hk]

theorem valueStep_mid {A V X : Bytes} {m : Nat} {acc : RtValues × Bool} (k : Nat) (h : rtSize k ≤ V.length) :
    valueStep (A ++ V ++ X) m acc ⟨k, A.length⟩ = valueStep V m acc ⟨k, 0⟩ := by
  rw [valueStep_eq_put, valueStep_eq_put,
    reads_congr _ A.length 0 (slice_mid A V X 0 _ (Nat.zero_add _ ▸ Nat.le_trans (rtWidths_le k) h))]

/-- the components `valueStep` does not simply overwrite with the octets of their own field -/
theorem valueStep_kept (bs : Bytes) (m : Nat) (s : RtValues × Bool) (f : RtField) :
    (valueStep bs m s f).1.length = s.1.length ∧
    (valueStep bs m s f).2 = (s.2 || f.field == 5) ∧
    (valueStep bs m s f).1.signal = if f.field = 5 ∧ s.2 = false then u8 bs f.off else s.1.signal := by
  obtain ⟨k, o⟩ := f
  obtain ⟨v, seen⟩ := s
  unfold valueStep
  dsimp only
  split
  case h_4 => cases seen <;> simp <;> split <;> simp
  case h_6 => split <;> simp
  case h_13 _ _ _ h5 _ _ _ _ _ _ _ _ => simp [show k ≠ 5 from h5]
  all_goals simp

theorem plan_lt {f hi base : Nat} (h : f ≤ hi) (hb : hi < base + 1280) : (f - base) / 5 < 256 :=
  Nat.div_lt_of_lt_mul (by omega)

theorem channelOf_lt (f : Nat) : (channelOf f).2 < 256 := by
  have plan {c : Prop} [Decidable c] {a b : Nat × Nat} (ha : c → a.2 < 256) (hb : ¬c → b.2 < 256) :
      (if c then a else b).2 < 256 := iteInduction (motive := fun p : Nat × Nat => p.2 < 256) ha hb
  exact plan (fun h => plan_lt h.2 (by decide)) fun _ =>
    plan (fun h => plan_lt h.2 (by decide)) fun _ =>
    plan (fun _ => by decide) fun _ =>
    plan (fun h => plan_lt h.2 (by decide)) fun _ =>
    plan (fun h => plan_lt h.2 (by decide)) fun _ => by decide

end LWV.Spec
