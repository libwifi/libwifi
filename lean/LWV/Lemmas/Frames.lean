import LWV.Model.Frames
import LWV.Spec.Frames
import LWV.Lemmas.Endian
import LWV.Lemmas.Outcome
/-
What C03, C07 and C20 share about the frame generators: the kinds, the parts of a generator object
(`static`, then `count` octets of `block`), the model's create and dump routines by class of kind, and
the Spec frame as header, fixed fields and payload (`frame_eq`).  The kind predicates of the three
properties (`C03.sk`, `C03.sa`, `C03Full.kindHasTags`, `C03Full.isAction`, `C07Any.isAct`,
`C07Any.sizeofPart`, `C07Any.sizeofLen`) are declared here, under the names the properties' statements
use, because the lemmas of this file are stated with them and every one of those modules imports it.
-/

namespace LWV.Props.C03
open LWV LWV.Model LWV.Spec

/-- the Spec's kind of a generator kind (`s` for Spec, as in `sa`): the two enumerations list the same sixteen frames -/
def sk : GKind → Kind
  | .beacon => .beacon | .probeReq => .probeReq | .probeResp => .probeResp | .assocReq => .assocReq | .assocResp => .assocResp
  | .reassocReq => .reassocReq | .reassocResp => .reassocResp | .auth => .auth | .deauth => .deauth | .disassoc => .disassoc
  | .action => .action | .actionNoAck => .actionNoAck | .timingAd => .timingAd | .atim => .atim | .rts => .rts | .cts => .cts

/-- the generator arguments as the Spec sees them (C strings cut at the first NUL, addresses six octets) -/
def sa (a : GArgs) : Args :=
  { a1 := mac a.a1, a2 := mac a.a2, a3 := mac a.a3, ap := mac a.ap, ssid := cstr a.ssid, ch := a.ch, alg := a.alg, seq := a.seq,
    status := a.status, reason := a.reason, cat := a.cat, dur := a.dur % 65536, timingElem := timingElement a,
    country := (a.country ++ [0, 0, 0]).take 3, mrp := a.mrp, mtx := a.mtx, txu := a.txu, nf := a.nf, sec := a.clk.sec, nsec := a.clk.nsec }

end LWV.Props.C03

namespace LWV.Props.C03Full
open LWV LWV.Model LWV.Spec

/-- the kinds whose struct has a `tags` member (`GObj.hasTags`, as a function of the kind) -/
def kindHasTags : GKind → Bool
  | .action | .actionNoAck | .atim | .rts | .cts => false
  | _ => true

theorem hasTags_eq (o : GObj) : o.hasTags = kindHasTags o.kind := rfl

/-- `libwifi_add_action_detail` exists for these (the same function as `C07Any.isAct`, by `rfl`) -/
def isAction : GKind → Bool
  | .action | .actionNoAck => true
  | _ => false

end LWV.Props.C03Full

namespace LWV.Props.C07Any
open LWV LWV.Model

def isAct : GKind → Bool
  | .action | .actionNoAck => true
  | _ => false

theorem isAct_iff {k : GKind} : isAct k = true ↔ k = .action ∨ k = .actionNoAck := by
  cases k <;> decide +kernel

theorem isAct_noTags {k : GKind} (h : isAct k = true) : C03Full.kindHasTags k = false := by
  rcases isAct_iff.mp h with rfl | rfl <;> rfl

/-- the part of the object whose size `libwifi_get_<kind>_length` takes from `sizeof`: the header
struct, and for action frames also the one-octet fixed part (the category) -/
def sizeofPart (o : GObj) : Bytes := if isAct o.kind then o.header ++ o.fixed else o.header

/-- the `sizeof` the length routines use for that part -/
def sizeofLen : GKind → Nat
  | .action | .actionNoAck => Gen.sz_libwifi_mgmt_unordered_frame_header + 1
  | .atim => Gen.sz_libwifi_atim
  | .rts => Gen.sz_libwifi_rts
  | .cts => Gen.sz_libwifi_cts
  | _ => Gen.sz_libwifi_mgmt_unordered_frame_header

/-- what `libwifi_dump_<kind>` copies first: the header, and the fixed part where the kind serialises one.
No edit changes it. -/
def static (o : GObj) : Bytes := if isAct o.kind = true ∨ o.hasTags = true then o.header ++ o.fixed else o.header

/-- the block from which `libwifi_dump_<kind>` copies next: action details, tagged parameters, or nothing -/
def block (o : GObj) : Bytes := if isAct o.kind = true then o.detail else if o.hasTags = true then o.tags.params else []

/-- how many octets of `block` it copies, and `libwifi_get_<kind>_length` counts: the recorded length -/
def count (o : GObj) : Nat := if isAct o.kind = true then o.detailLen else if o.hasTags = true then o.tags.length else 0

end LWV.Props.C07Any

namespace LWV.Model
open LWV

theorem GKind.isCtrl_cases {k : GKind} (h : ¬ k.isCtrl = false) : k = .rts ∨ k = .cts := by
  cases k
  case rts => exact Or.inl rfl
  case cts => exact Or.inr rfl
  all_goals exact absurd rfl h

theorem GObj.header_ctrl (o : GObj) (h : o.kind.isCtrl = true) :
    o.header = o.fc ++ leBytes 2 o.duration ++ o.a1 ++ o.a2 := if_pos h

theorem GObj.header_mgmt (o : GObj) (h : o.kind.isCtrl = false) :
    o.header = o.fc ++ leBytes 2 o.duration ++ o.a1 ++ o.a2 ++ o.a3 ++ [0, 0] :=
  if_neg (by rw [h]; exact Bool.false_ne_true)

theorem create_mgmt (k : GKind) (a : GArgs) (h : k.isCtrl = false) :
    create k a = initialTags k a >>= fun rt => .ok (rt.1,
      { kind := k, fc := fcBytes mgmtType k.subtype, a1 := mac a.a1, a2 := mac a.a2, a3 := mac a.a3,
        fixed := fixedOf k a, tags := rt.2 }) := by
  cases k
  case rts | cts => cases h
  all_goals rfl

/-- an argument copied into a field of `n` octets -/
theorem _root_.LWV.length_pad (x : Bytes) (n : Nat) : ((x ++ List.replicate n 0).take n).length = n := by
  rw [List.length_take, List.length_append, List.length_replicate]
  exact Nat.min_eq_left (Nat.le_add_left _ _)

theorem _root_.LWV.length_fill {α} (r : List α) (n : Nat) (z : α) (h : r.length ≤ n) :
    (r ++ List.replicate (n - r.length) z).length = n := by
  rw [List.length_append, List.length_replicate, Nat.add_sub_of_le h]

/-- the capability octet and, depending on it, up to three fields of 10, 5 and 1 octets -/
theorem timingElement_length (a : GArgs) : (timingElement a).length ≤ 17 := by
  unfold timingElement
  dsimp only
  by_cases h1 : a.cap % 256 = 1
  · rw [if_pos h1, List.length_append, List.length_append, leBytes_length, length_pad, length_pad]
    decide
  · by_cases h2 : a.cap % 256 = 2
    · rw [if_neg h1, if_pos h2, List.length_append, List.length_append, List.length_append, leBytes_length, length_pad,
        length_pad, length_pad]
      decide
    · rw [if_neg h1, if_neg h2, List.append_nil, leBytes_length]
      decide

theorem fixedOf_plain (k : GKind) (a : GArgs) (ha : Props.C07Any.isAct k = false) (ht : Props.C03Full.kindHasTags k = false) :
    fixedOf k a = [] := by
  cases k
  case action | actionNoAck => cases ha
  case atim | rts | cts => rfl
  all_goals cases ht

theorem initialTags_noTags (k : GKind) (a : GArgs) (h : Props.C03Full.kindHasTags k = false) :
    initialTags k a = .ok (0, Tags.empty) := by
  cases k
  case action | actionNoAck | atim | rts | cts => rfl
  all_goals cases h

theorem create_rts (a : GArgs) : create .rts a = .ok (0,
    { kind := .rts, fc := fcBytes ctrlType GKind.rts.subtype, duration := a.dur % 65536, a1 := mac a.a2,
      a2 := mac a.a1, a3 := [] }) := rfl

theorem create_cts (a : GArgs) : create .cts a = .ok (0,
    { kind := .cts, fc := fcBytes ctrlType GKind.cts.subtype, duration := a.dur % 65536, a1 := mac a.a1,
      a2 := [], a3 := [] }) := rfl

theorem _root_.LWV.length_overwrite {e buf : Bytes} (h : ¬ buf.length < e.length) :
    (e ++ buf.drop e.length).length = buf.length := by
  rw [List.length_append, List.length_drop]
  exact Nat.add_sub_of_le (Nat.le_of_not_lt h)

/-- `libwifi_dump_<kind>` of an object whose encoding has the reported length is a guarded write -/
theorem dumpInto_eq {o : GObj} {e : Bytes} (he : o.encoding = .ok e) (hl : e.length = o.length) (buf : Bytes) :
    dumpInto o buf = if buf.length < e.length then .ok (-EINVAL, buf) else .ok ((e.length : Nat), e ++ buf.drop e.length) := by
  unfold dumpInto
  rw [he, ← hl]
  by_cases h : buf.length < e.length
  · rw [if_pos h, if_pos h]
  · rw [if_neg h, if_neg h, Outcome.bind_ok, if_neg h]

end LWV.Model

namespace LWV.Props.C07Any
open LWV LWV.Model LWV.Props.C03Full

/-- the three shapes of `libwifi_dump_<kind>` / `libwifi_get_<kind>_length` -/
theorem shapes (o : GObj) :
    (isAct o.kind = true ∧ o.hasTags = false ∧
      o.encoding = (rdSlice "detail" o.detail 0 o.detailLen >>= fun d => .ok (o.header ++ o.fixed ++ d)) ∧
      o.length = sizeofLen o.kind + o.detailLen) ∨
    (isAct o.kind = false ∧ o.hasTags = false ∧ o.encoding = .ok o.header ∧ o.length = sizeofLen o.kind) ∨
    (isAct o.kind = false ∧ o.hasTags = true ∧
      o.encoding = (rdSlice "tags" o.tags.params 0 o.tags.length >>= fun t => .ok (o.header ++ o.fixed ++ t)) ∧
      o.length = sizeofLen o.kind + o.fixed.length + o.tags.length) := by
  unfold GObj.encoding GObj.length GObj.hasTags
  cases o.kind
  case action | actionNoAck => exact Or.inl ⟨rfl, rfl, rfl, rfl⟩
  case atim | rts | cts => exact Or.inr (Or.inl ⟨rfl, rfl, rfl, rfl⟩)
  all_goals exact Or.inr (Or.inr ⟨rfl, rfl, rfl, rfl⟩)

theorem slice_ok_iff {w : String} {bs pre e : Bytes} {n : Nat} :
    (rdSlice w bs 0 n >>= fun d => Outcome.ok (pre ++ d)) = .ok e ↔ n ≤ bs.length ∧ e = pre ++ bs.take n := by
  unfold rdSlice
  rw [Nat.zero_add, List.drop_zero]
  by_cases h : n ≤ bs.length
  · rw [if_pos h]
    exact ⟨fun he => ⟨h, (Outcome.ok.inj he).symm⟩, fun he => congrArg _ he.2.symm⟩
  · rw [if_neg h]
    exact ⟨nofun, fun he => absurd he.1 h⟩

/-- the three shapes as one: `libwifi_dump_<kind>` copies the static part and the first `count` octets of
`block`, provided that many are there -/
theorem encoding_ok_iff (o : GObj) {e : Bytes} :
    o.encoding = .ok e ↔ count o ≤ (block o).length ∧ e = static o ++ (block o).take (count o) := by
  unfold static block count
  rcases shapes o with ⟨ha, ht, he, -⟩ | ⟨ha, ht, he, -⟩ | ⟨ha, ht, he, -⟩
  · rw [he, if_pos ha, if_pos ha, if_pos (Or.inl ha)]
    exact slice_ok_iff
  · rw [he, ha, ht, if_neg Bool.false_ne_true, if_neg Bool.false_ne_true, if_neg Bool.false_ne_true,
      if_neg Bool.false_ne_true, if_neg (by decide)]
    exact ⟨fun h => ⟨Nat.le_refl _, (Outcome.ok.inj h).symm.trans (List.append_nil _).symm⟩,
      fun h => congrArg _ ((List.append_nil _).symm.trans h.2.symm)⟩
  · rw [he, ha, if_neg Bool.false_ne_true, if_neg Bool.false_ne_true, if_pos ht, if_pos ht, if_pos (Or.inr ht)]
    exact slice_ok_iff

/-- `libwifi_get_<kind>_length` reports that many octets, as far as the `sizeof` it uses is right -/
theorem reportedLength_eq (o : GObj) : o.length + (sizeofPart o).length = sizeofLen o.kind + (static o).length + count o := by
  unfold static sizeofPart count
  rcases shapes o with ⟨ha, ht, -, hl⟩ | ⟨ha, ht, -, hl⟩ | ⟨ha, ht, -, hl⟩
  · rw [hl, if_pos ha, if_pos ha, if_pos (Or.inl ha)]
    exact Nat.add_right_comm _ _ _
  · rw [hl, ha, ht, if_neg Bool.false_ne_true, if_neg Bool.false_ne_true, if_neg Bool.false_ne_true, if_neg (by decide)]
    rfl
  · rw [hl, ha, if_neg Bool.false_ne_true, if_neg Bool.false_ne_true, if_pos ht, if_pos (Or.inr ht), List.length_append,
      Nat.add_comm o.header.length, ← Nat.add_assoc]
    exact Nat.add_right_comm _ _ _

theorem sized_iff (o : GObj) : (sizeofPart o).length = sizeofLen o.kind ↔ o.length = (static o).length + count o := by
  have hl := reportedLength_eq o
  constructor
  · intro h
    rw [h, Nat.add_comm o.length, Nat.add_assoc] at hl
    exact Nat.add_left_cancel hl
  · intro h
    rw [h, Nat.add_assoc (sizeofLen _), Nat.add_comm (sizeofLen _)] at hl
    exact Nat.add_left_cancel hl

theorem fixedOf_length_act (k : GKind) (a : GArgs) (h : isAct k = true) : (fixedOf k a).length = 1 := by
  rcases isAct_iff.mp h with rfl | rfl <;> rfl

theorem sizeofLen_mgmt (k : GKind) (h : k.isCtrl = false) : sizeofLen k = 24 + if isAct k = true then 1 else 0 := by
  cases k
  case rts | cts => cases h
  all_goals rfl

/-- the `sized` clause of `C07Any.WF` from the lengths of the fields: six-octet addresses (RTS: receiver and
transmitter; CTS: the receiver and an empty second address; every other kind: three) and a
one-octet fixed part on action frames -/
theorem sized_of_fields {o : GObj} (hfc : o.fc.length = 2) (h1 : o.a1.length = 6)
    (h2 : o.a2.length = if o.kind = .cts then 0 else 6) (h3 : o.kind.isCtrl = false → o.a3.length = 6)
    (hfx : isAct o.kind = true → o.fixed.length = 1) : (sizeofPart o).length = sizeofLen o.kind := by
  unfold sizeofPart
  by_cases hc : o.kind.isCtrl = false
  · have hk : o.kind ≠ .cts := fun h => by rw [h] at hc; cases hc
    rw [if_neg hk] at h2
    rw [o.header_mgmt hc, sizeofLen_mgmt _ hc]
    split
    · rename_i ha
      simp only [List.length_append, leBytes_length, List.length_cons, List.length_nil, hfc, h1, h2, h3 hc, hfx ha]
    · simp only [List.length_append, leBytes_length, List.length_cons, List.length_nil, hfc, h1, h2, h3 hc]
  · rcases GKind.isCtrl_cases hc with hk | hk <;>
    · rw [if_neg (by rw [hk]; exact Bool.false_ne_true), o.header_ctrl (by rw [hk]; rfl), hk]
      rw [hk] at h2
      simp only [List.length_append, leBytes_length, hfc, h1, h2]
      rfl

end LWV.Props.C07Any

namespace LWV.Props.C03
open LWV LWV.Model LWV.Spec LWV.Props.C03Full LWV.Props.C07Any

theorem mac_length (b : Bytes) : (mac b).length = 6 := length_pad b 6

/-- the header octets of `Spec.frame (sk k) (sa a)`: frame control and duration, then two addresses (RTS: the
arguments `a2`, `a1`, as `create_rts` stores them), one (CTS), or three and a zero sequence control (every other
kind; `C04Round.hdr24` for the nine kinds with a parser) -/
def hdrOf (k : GKind) (a : GArgs) : Bytes :=
  match k with
  | .rts => Spec.frameControl (sk k) ++ leBytes 2 (a.dur % 65536) ++ mac a.a2 ++ mac a.a1
  | .cts => Spec.frameControl (sk k) ++ leBytes 2 (a.dur % 65536) ++ mac a.a1
  | _ => Spec.frameControl (sk k) ++ [0, 0] ++ mac a.a1 ++ mac a.a2 ++ mac a.a3 ++ [0, 0]

theorem hdrOf_mgmt (k : GKind) (a : GArgs) (h : k.isCtrl = false) :
    hdrOf k a = Spec.frameControl (sk k) ++ [0, 0] ++ mac a.a1 ++ mac a.a2 ++ mac a.a3 ++ [0, 0] := by
  cases k
  case rts | cts => cases h
  all_goals rfl

theorem hdrOf_length_mgmt (k : GKind) (a : GArgs) (h : k.isCtrl = false) : (hdrOf k a).length = 24 := by
  rw [hdrOf_mgmt k a h]
  simp only [List.length_append, Spec.frameControl, mac_length, List.length_cons, List.length_nil]

/-- what follows the fixed fields in `Spec.frame`, selected as `block` is -/
def payload (k : GKind) (es : List Elem) (det : Bytes) : Bytes :=
  if isAct k = true then det else if kindHasTags k = true then encode es else []

theorem frame_eq (k : GKind) (a : GArgs) (es : List Elem) (det : Bytes) :
    Spec.frame (sk k) (sa a) es det = hdrOf k a ++ Spec.fixed (sk k) (sa a) ++ payload k es det := by
  cases k
  case atim | rts | cts => exact ((List.append_nil _).trans (List.append_nil _)).symm
  all_goals rfl

end LWV.Props.C03
