import LWV.Model.Crc
import LWV.Lemmas.Endian
/-
The CRC register step bit-wise: linear, injective (no bv_decide).  At most 32 bits XOR-ed into the register
are pending input (`crcStep_feed`, `feedBits_pack`): hence the byte loop is the bit-serial LFSR (`crcByte_eq`,
`foldl_crcByte`), and with its affineness (`foldl_crcByte_xor`) no burst clears the register (`burst_nonzero`).
-/
namespace LWV

theorem crcStep_zero : crcStep 0#32 = 0#32 := by decide

theorem feedback_xor (p q : Bool) :
    (if (p ^^ q) then crcPoly else 0#32) = (if p then crcPoly else 0#32) ^^^ (if q then crcPoly else 0#32) := by
  cases p <;> cases q <;> simp

theorem xor_xor_xor_comm (a b c d : Reg) : a ^^^ b ^^^ (c ^^^ d) = a ^^^ c ^^^ (b ^^^ d) := by
  rw [BitVec.xor_assoc, BitVec.xor_assoc, ← BitVec.xor_assoc b, BitVec.xor_comm b, BitVec.xor_assoc]

/-- the step is linear over GF(2) -/
theorem crcStep_xor (a b : Reg) : crcStep (a ^^^ b) = crcStep a ^^^ crcStep b := by
  unfold crcStep
  rw [BitVec.getLsbD_xor, BitVec.ushiftRight_xor_distrib, feedback_xor]
  exact xor_xor_xor_comm ..

theorem crcStep_bit31 (x : Reg) : (crcStep x).getLsbD 31 = x.getLsbD 0 := by
  unfold crcStep
  cases h : x.getLsbD 0 <;> simp [crcPoly]

/-- the step is injective: bit 31 of the result reveals the feedback bit -/
theorem crcStep_inj {a b : Reg} (h : crcStep a = crcStep b) : a = b := by
  have h0 : a.getLsbD 0 = b.getLsbD 0 := by rw [← crcStep_bit31, ← crcStep_bit31, h]
  unfold crcStep at h
  rw [h0, BitVec.xor_left_inj] at h
  refine BitVec.eq_of_getLsbD_eq fun i _ => ?_
  cases i with
  | zero => exact h0
  | succ i =>
    have hi : (a >>> 1).getLsbD i = (b >>> 1).getLsbD i := by rw [h]
    rwa [BitVec.getLsbD_ushiftRight, BitVec.getLsbD_ushiftRight, Nat.add_comm] at hi

theorem crcStep_eq_zero (a : Reg) : crcStep a = 0#32 ↔ a = 0#32 :=
  ⟨fun h => crcStep_inj (h.trans crcStep_zero.symm), fun h => h ▸ crcStep_zero⟩

open Model

theorem iter_crcStep_eq_zero (k : Nat) (y : Reg) : iter crcStep k y = 0#32 ↔ y = 0#32 := by
  induction k generalizing y with
  | zero => exact Iff.rfl
  | succ k ih => exact (ih _).trans (crcStep_eq_zero y)

theorem iter_crcStep_xor (k : Nat) (a b : Reg) :
    iter crcStep k (a ^^^ b) = iter crcStep k a ^^^ iter crcStep k b := by
  induction k generalizing a b with
  | zero => rfl
  | succ k ih => exact (congrArg (iter crcStep k) (crcStep_xor a b)).trans (ih _ _)

def bitOf (b : Bool) : Reg := if b then 1#32 else 0#32

theorem feed_def (r : Reg) (b : Bool) : feed r b = crcStep (r ^^^ bitOf b) := rfl

theorem feedBits_append (r : Reg) (a b : List Bool) : feedBits r (a ++ b) = feedBits (feedBits r a) b :=
  List.foldl_append

theorem bitOf_shift (b : Bool) : bitOf b >>> 1 = 0#32 := by cases b <;> decide

theorem bitOf_lsb (b : Bool) : (bitOf b).getLsbD 0 = b := by cases b <;> rfl

/-- both sides are `s >>> 1 ^^^ y >>> 1` with feedback when bit 0 of `s` and `y` differ -/
theorem crcStep_feed (s y : Reg) : crcStep (s ^^^ y) = feed s (y.getLsbD 0) ^^^ y >>> 1 := by
  rw [feed_def]
  unfold crcStep
  rw [BitVec.ushiftRight_xor_distrib, BitVec.ushiftRight_xor_distrib, bitOf_shift, BitVec.getLsbD_xor,
    BitVec.getLsbD_xor, bitOf_lsb, BitVec.xor_zero, BitVec.xor_assoc, BitVec.xor_assoc, BitVec.xor_comm (y >>> 1)]

/-- register contents written as a bit list, least significant first -/
def pack (bits : List Bool) : Reg := (BitVec.ofBoolListLE bits).setWidth 32

theorem pack_getLsbD (bits : List Bool) (i : Nat) (hi : i < 32) : (pack bits).getLsbD i = bits.getD i false := by
  rw [pack, BitVec.getLsbD_setWidth, BitVec.getLsbD_ofBoolListLE, decide_eq_true hi, Bool.true_and]

theorem pack_high (bits : List Bool) (i : Nat) (hi : bits.length ≤ i) : (pack bits).getLsbD i = false := by
  rw [pack, BitVec.getLsbD_setWidth, BitVec.getLsbD_ofBoolListLE, List.getD_eq_getElem?_getD, List.getElem?_eq_none hi]
  exact Bool.and_false _

theorem pack_tail (b : Bool) (t : List Bool) (ht : t.length ≤ 31) : pack (b :: t) >>> 1 = pack t := by
  refine BitVec.eq_of_getLsbD_eq fun i hi => ?_
  rw [BitVec.getLsbD_ushiftRight]
  by_cases h : 1 + i < 32
  · rw [pack_getLsbD _ _ h, pack_getLsbD _ _ hi, Nat.add_comm]; rfl
  · rw [BitVec.getLsbD_of_ge _ _ (Nat.le_of_not_lt h), pack_high t i (by omega)]

/-- at most 32 bits XOR-ed into the register are pending input: each step feeds the lowest of them
and moves the others down -/
theorem feedBits_pack (s : Reg) (w : List Bool) (hw : w.length ≤ 32) :
    feedBits s w = iter crcStep w.length (s ^^^ pack w) := by
  induction w generalizing s with
  | nil => exact BitVec.xor_zero.symm
  | cons b t ih =>
    have ht : t.length ≤ 31 := Nat.le_of_succ_le_succ hw
    rw [List.length_cons, iter, crcStep_feed, pack_getLsbD (b :: t) 0 (by decide), List.getD_cons_zero, pack_tail b t ht,
      ← ih _ (Nat.le_succ_of_le ht)]
    rfl

theorem octetBits_length (a : UInt8) : (octetBits a).length = 8 := by simp [octetBits]

theorem octet_pack (b : UInt8) : BitVec.ofNat 32 b.toNat = pack (octetBits b) := by
  refine BitVec.eq_of_getLsbD_eq fun i hi => ?_
  rw [pack_getLsbD _ i hi, BitVec.getLsbD_ofNat, decide_eq_true hi, Bool.true_and, octetBits]
  by_cases h8 : i < 8
  · simp [h8]
  · simp [h8, testBit_of_lt b.toNat_lt (Nat.le_of_not_lt h8)]

/-- the C inner loop for one octet is eight steps of the bit-serial LFSR -/
theorem crcByte_eq (s : Reg) (b : UInt8) : crcByte s b = feedBits s (octetBits b) := by
  have hl := octetBits_length b
  rw [feedBits_pack s _ (by rw [hl]; decide), hl, ← octet_pack]
  rfl

theorem foldl_crcByte (s : Reg) (m : Bytes) : m.foldl crcByte s = feedBits s (messageBits m) := by
  induction m generalizing s with
  | nil => rfl
  | cons b t ih =>
    simp only [List.foldl_cons, messageBits, List.flatMap_cons]
    rw [ih, crcByte_eq, feedBits_append]
    rfl

theorem crcByte_xor (s t : Reg) (a b : UInt8) : crcByte (s ^^^ t) (a ^^^ b) = crcByte s a ^^^ crcByte t b := by
  unfold crcByte
  rw [UInt8.toNat_xor, BitVec.ofNat_xor, xor_xor_xor_comm, iter_crcStep_xor]

/-- the register after a message is affine in the message: flipping bits `e` changes it by the
zero-preset register of `e` -/
theorem foldl_crcByte_xor (s t : Reg) (m e : Bytes) (h : m.length = e.length) :
    (List.zipWith (· ^^^ ·) m e).foldl crcByte (s ^^^ t) = m.foldl crcByte s ^^^ e.foldl crcByte t := by
  induction m generalizing s t e with
  | nil =>
    cases e with
    | nil => rfl
    | cons _ _ => cases h
  | cons a m ih =>
    cases e with
    | nil => cases h
    | cons b e =>
      rw [List.zipWith_cons_cons, List.foldl_cons, List.foldl_cons, List.foldl_cons, crcByte_xor]
      exact ih _ _ e (Nat.succ.inj h)

theorem feed_false (r : Reg) : feed r false = crcStep r := congrArg crcStep BitVec.xor_zero

theorem feedBits_zeros (r : Reg) (n : Nat) : feedBits r (List.replicate n false) = iter crcStep n r := by
  induction n generalizing r with
  | zero => rfl
  | succ n ih => exact (ih _).trans (congrArg (iter crcStep n) (feed_false r))

theorem feedBits_zero_pack (bits : List Bool) (s : Reg) (hl : bits.length ≤ 32)
    (h : feedBits s bits = 0#32) : s = pack bits := by
  rw [feedBits_pack s bits hl, iter_crcStep_eq_zero] at h
  exact BitVec.xor_eq_zero_iff.mp h

/-- an error pattern confined to at most 32 consecutive bits -/
def IsBurstBits (e : List Bool) : Prop :=
  ∃ a w c, e = List.replicate a false ++ w ++ List.replicate c false ∧ w.length ≤ 32 ∧ true ∈ w

theorem burst_nonzero {e : List Bool} (h : IsBurstBits e) : feedBits 0#32 e ≠ 0#32 := by
  obtain ⟨a, w, c, rfl, hw, hmem⟩ := h
  rw [feedBits_append, feedBits_append, feedBits_zeros, feedBits_zeros, (iter_crcStep_eq_zero a _).mpr rfl, Ne,
    iter_crcStep_eq_zero]
  intro hz
  obtain ⟨i, hi, hwi⟩ := List.getElem_of_mem hmem
  have hb := pack_getLsbD w i (Nat.lt_of_lt_of_le hi hw)
  rw [← feedBits_zero_pack w 0#32 hw hz, BitVec.getLsbD_zero, ← List.getElem_eq_getD (h := hi), hwi] at hb
  cases hb

end LWV
