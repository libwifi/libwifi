import LWV.Model.Heap
import LWV.Props.C05
/-
Ledger discipline of the allocation-aware skeletons: `Clean` and `Has`, what `malloc` / `realloc` / `free` do
to them under an arbitrary fault schedule, the tag API call by call against the pure routines (`Rep`, `Ledger`),
the one-block transaction `scratch` that the parsers with a released output are instances of, and what
`classifyH` returns (`Classified`).
-/
namespace LWV.Heap
open LWV LWV.Model LWV.Props.C05 LWV.Props.C06

/-- the ledger holds exactly the blocks in `owned`, nothing was released twice or invalidly -/
structure Clean (h : H) (owned : List Nat) : Prop where
  bad : h.bad = 0
  mem : ∀ x, x ∈ h.live ↔ x ∈ owned
  nodup : h.live.Nodup
  fresh : ∀ x ∈ h.live, x < h.next

theorem clean_init : Clean {} [] := ⟨rfl, fun _ => Iff.rfl, List.nodup_nil, fun _ hx => by cases hx⟩

theorem Clean.congr {h : H} {l1 l2 : List Nat} (c : Clean h l1) (hm : ∀ x, x ∈ l1 ↔ x ∈ l2) : Clean h l2 :=
  ⟨c.bad, fun x => (c.mem x).trans (hm x), c.nodup, c.fresh⟩

/-- a ledger that differs only in counters, trace and unused ids is as clean -/
theorem Clean.of_same {h h' : H} {own : List Nat} (c : Clean h own) (hl : h'.live = h.live) (hb : h'.bad = h.bad)
    (hn : h.next ≤ h'.next) : Clean h' own :=
  ⟨hb ▸ c.bad, hl ▸ c.mem, hl ▸ c.nodup, fun x hx => Nat.lt_of_lt_of_le (c.fresh x (hl ▸ hx)) hn⟩

def blocks (p : Ptr) : List Nat := p.toList

/-- `p` is NULL, or a block the ledger holds beside those in `own`.  `malloc`, `realloc` and `free` are
specified in this one shape; `Ledger` below, and `Own` and `FrameInv` of Props/C14Full.lean, are entered and
left through it, a second block of the same object standing in `own` meanwhile. -/
structure Has (p : Ptr) (h : H) (own : List Nat) : Prop where
  clean : Clean h (blocks p ++ own)
  fresh : ∀ id, p = some id → id ∉ own

theorem has_none {h : H} {own : List Nat} : Has none h own ↔ Clean h own :=
  ⟨fun w => w.clean, fun c => ⟨c, nofun⟩⟩

theorem mem_blocks (p : Ptr) (x : Nat) : x ∈ blocks p ↔ p = some x := by
  cases p <;> simp [blocks, eq_comm]

theorem Has.distinct {p q : Ptr} {h : H} {own : List Nat} (w : Has p h (blocks q ++ own)) :
    ∀ i j, p = some i → q = some j → i ≠ j :=
  fun i _ hi hj he => w.fresh i hi (List.mem_append_left _ ((mem_blocks _ _).mpr (he ▸ hj)))

theorem Has.of_distinct {p q : Ptr} {h : H} {own : List Nat} (c : Clean h (blocks p ++ (blocks q ++ own)))
    (hp : ∀ id, p = some id → id ∉ own) (hd : ∀ i j, p = some i → q = some j → i ≠ j) : Has p h (blocks q ++ own) :=
  ⟨c, fun id hid hm => (List.mem_append.mp hm).elim (fun hm => hd id id hid ((mem_blocks _ _).mp hm) rfl) (hp id hid)⟩

theorem Has.not_mem_own {p q : Ptr} {h : H} {own : List Nat} (w : Has p h (blocks q ++ own)) : ∀ id, p = some id → id ∉ own :=
  fun id hid hm => w.fresh id hid (List.mem_append_right _ hm)

/-- which of two blocks stands in `own` is a matter of view -/
theorem Has.swap {p q : Ptr} {h : H} {own : List Nat} (w : Has p h (blocks q ++ own)) (hq : ∀ id, q = some id → id ∉ own) :
    Has q h (blocks p ++ own) :=
  .of_distinct (w.clean.congr (by intro x; simp only [List.mem_append, or_left_comm])) hq
    fun i j hi hj he => w.distinct j i hj hi he.symm

theorem push_has {h1 : H} {own : List Nat} (c1 : Clean h1 own) {reqs faults : Nat} {tr : List String} :
    Has (some h1.next) { h1 with reqs := reqs, faults := faults, next := h1.next + 1, live := h1.next :: h1.live, trace := tr } own := by
  have hnew : h1.next ∉ h1.live := fun hm => Nat.lt_irrefl _ (c1.fresh _ hm)
  refine ⟨⟨c1.bad, ?_, List.nodup_cons.mpr ⟨hnew, c1.nodup⟩, ?_⟩, fun i hi hm => ?_⟩
  · intro x; simp only [blocks, Option.toList, List.cons_append, List.nil_append, List.mem_cons, c1.mem]
  · intro x hx
    rcases List.mem_cons.mp hx with rfl | hx
    · exact Nat.lt_succ_self _
    · exact Nat.lt_succ_of_lt (c1.fresh x hx)
  · cases hi
    exact hnew ((c1.mem _).mpr hm)

theorem malloc_has (σ : Nat → Bool) (n : Nat) (h : H) :
    ∃ q h', (malloc σ n).run h = (q, h') ∧ (q = none → σ h.reqs = true) ∧ ∀ own, Clean h own → Has q h' own := by
  by_cases hf : σ h.reqs = true
  · exact ⟨none, _, if_pos hf, fun _ => hf, fun _ c => has_none.mpr (c.of_same rfl rfl (Nat.le_refl _))⟩
  · exact ⟨_, _, if_neg hf, nofun, fun _ c => push_has c⟩

theorem release_has {id : Nat} {h : H} {own : List Nat} (w : Has (some id) h own) :
    Clean ((release id).run h).2 own := by
  have c : Clean h (id :: own) := w.clean
  unfold release
  have hc : h.live.contains id = true := by simpa using (c.mem id).mpr List.mem_cons_self
  simp only [StateT.run, hc, if_true]
  refine ⟨c.bad, fun x => ?_, c.nodup.erase _, fun x hx => c.fresh x (List.mem_of_mem_erase hx)⟩
  rw [c.nodup.mem_erase_iff, c.mem, List.mem_cons]
  exact ⟨fun a => a.2.resolve_left a.1, fun hx => ⟨fun he => w.fresh id rfl (he ▸ hx), .inr hx⟩⟩

theorem free_has {p : Ptr} {h : H} {own : List Nat} (w : Has p h own) : Clean ((free p).run h).2 own := by
  cases p with
  | none => exact w.clean
  | some id =>
    show Clean { ((release id).run h).2 with trace := _ } own
    exact (release_has w).of_same rfl rfl (Nat.le_refl _)

/-- after `q = realloc(p, n)` the block to keep is `q ? q : p`: on failure the old block stays -/
theorem realloc_has (σ : Nat → Bool) (p : Ptr) (n : Nat) (h : H) (own : List Nat) (w : Has p h own) :
    ∃ q h', (realloc σ p n).run h = (q, h') ∧ (q = none → σ h.reqs = true) ∧ Has (q.or p) h' own := by
  by_cases hf : σ h.reqs = true
  · exact ⟨none, _, if_pos hf, fun _ => hf, w.clean.of_same rfl rfl (Nat.le_refl _), w.fresh⟩
  · refine ⟨_, _, if_neg hf, nofun, ?_⟩
    cases p with
    | none => exact push_has (has_none.mp w)
    | some id => exact push_has (release_has w)

theorem malloc_fst (σ : Nat → Bool) (n : Nat) (h : H) :
    ((malloc σ n).run h).1 = if σ h.reqs then none else some h.next :=
  apply_ite Prod.fst ..

/-- the tag list owns its block exactly when it is not empty -/
def Owns (th : TagsH) : Prop := (th.t.length = 0 → th.ptr = none) ∧ (th.t.length ≠ 0 → th.ptr.isSome)

theorem run_bind {α β} (m : M α) (f : α → M β) (h : H) :
    (m >>= f).run h = (f (m.run h).1).run (m.run h).2 := rfl

theorem run_pure {α} (a : α) (h : H) : (pure a : M α).run h = (a, h) := rfl

/-- what one allocation-aware call on a tag list guarantees (C15 + the ledger part of C14):
either it reports an error and the list is unchanged, or it reports success and the list is the
pure model's result; the ledger stays exact and the ownership invariant holds -/
structure StepOk (th : TagsH) (pureT : Outcome Tags) (r : Int) (th' : TagsH) (h' : H) (own : List Nat) : Prop where
  dich : (r < 0 ∧ th' = th) ∨ (r = 0 ∧ pureT = .ok th'.t)
  clean : Clean h' (blocks th'.ptr ++ own)
  fresh : ∀ id, th'.ptr = some id → id ∉ own
  owns : Owns th'

theorem enomem_neg : (-ENOMEM : Int) < 0 := by decide

/-- what holds of a tag list between two calls: the ledger holds its block beside `own` (`Ledger.has`), and the block
is there exactly when the list is not empty -/
structure Ledger (th : TagsH) (h : H) (own : List Nat) : Prop where
  clean : Clean h (blocks th.ptr ++ own)
  fresh : ∀ id, th.ptr = some id → id ∉ own
  owns : Owns th

theorem StepOk.ledger {th : TagsH} {p : Outcome Tags} {r : Int} {th' : TagsH} {h' : H} {own : List Nat}
    (s : StepOk th p r th' h' own) : Ledger th' h' own := ⟨s.clean, s.fresh, s.owns⟩

theorem Ledger.has {th : TagsH} {h : H} {own : List Nat} (l : Ledger th h own) : Has th.ptr h own := ⟨l.clean, l.fresh⟩

theorem ledger_empty {h : H} {own : List Nat} (c : Clean h own) : Ledger ({} : TagsH) h own :=
  ⟨c, nofun, ⟨fun _ => rfl, fun h0 => absurd rfl h0⟩⟩

theorem clean_nil_live {h : H} (c : Clean h []) : h.live = [] ∧ h.bad = 0 :=
  ⟨List.eq_nil_iff_forall_not_mem.mpr (fun x hx => nomatch (c.mem x).mp hx), c.bad⟩

/-- what a tag call, or several in sequence with the C's early return, returns and leaves (`out`) against what the
pure routine returns (`p`): a reported failure that a refused request explains, `keep` then holding of the list
(`(· = th)`, unchanged, for a single call), or `p`'s code and list; the ledger exact in either case -/
structure Rep (σ : Nat → Bool) (own : List Nat) (keep : TagsH → Prop) (out : (Int × TagsH) × H) (p : Outcome (Int × Tags)) :
    Prop where
  res : (out.1.1 < 0 ∧ keep out.1.2 ∧ ∃ k, σ k = true) ∨ p = .ok (out.1.1, out.1.2.t)
  ledger : Ledger out.1.2 out.2 own

section
variable {σ : Nat → Bool} {own : List Nat} {keep : TagsH → Prop} {out : (Int × TagsH) × H} {p p' : Outcome (Int × Tags)}

theorem Rep.weak (s : Rep σ own keep out p) : Rep σ own (fun _ => True) out p :=
  ⟨s.res.imp_left fun a => ⟨a.1, trivial, a.2.2⟩, s.ledger⟩

theorem Rep.zero (s : Rep σ own keep out p) (hz : out.1.1 = 0) : p = .ok (0, out.1.2.t) := by
  rcases s.res with ⟨hr, _⟩ | hp
  · omega
  · rw [hz] at hp; exact hp

/-- `nf`, here and in every name that ends in it: under the schedule that refuses no request -/
theorem Rep.nf (s : Rep (fun _ => false) own keep out p) : p = .ok (out.1.1, out.1.2.t) := by
  rcases s.res with ⟨_, _, k, hk⟩ | hp
  · cases hk
  · exact hp

theorem Rep.of_eq (s : Rep σ own keep out p) (e : p' = p) : Rep σ own keep out p' := e ▸ s

/-- of a single call whose pure counterpart `q` returns no code of its own, `Rep` says what `StepOk` says -/
theorem Rep.stepOk {th th' : TagsH} {r : Int} {h' : H} {q : Outcome Tags}
    (s : Rep σ own (· = th) ((r, th'), h') (do let t ← q; .ok (0, t))) : StepOk th q r th' h' own := by
  refine ⟨s.res.imp (fun a => ⟨a.1, a.2.1⟩) fun hp => ?_, s.ledger.clean, s.ledger.fresh, s.ledger.owns⟩
  obtain ⟨t, hq, ht⟩ := Outcome.bind_eq_ok hp
  cases ht
  exact ⟨rfl, hq⟩

end

theorem addTagH_rep (σ : Nat → Bool) (th : TagsH) (tag : Tag) {t' : Tags} (hpure : addTag th.t tag = .ok t')
    (h : H) (own : List Nat) (w : Has th.ptr h own) (ho : Owns th) :
    Rep σ own (· = th) ((addTagH σ th tag).run h) (.ok (0, t')) := by
  have hl := addTag_length_ne_zero hpure
  have stored : ∀ q : Nat, Owns { t := t', ptr := some q } := fun q => ⟨fun hz => absurd hz hl, fun _ => rfl⟩
  unfold addTagH
  simp only [hpure, okOr]
  by_cases h0 : th.t.length = 0
  · obtain ⟨q, h1, e, hw, wq⟩ := malloc_has σ (2 + tag.len.toNat) h
    have wq := wq own (has_none.mp (ho.1 h0 ▸ w))
    rw [if_pos h0, run_bind, e]
    cases q with
    | none =>
      rw [← ho.1 h0] at wq
      exact ⟨.inl ⟨enomem_neg, rfl, _, hw rfl⟩, wq.clean, wq.fresh, ho⟩
    | some q => exact ⟨.inr rfl, wq.clean, wq.fresh, stored q⟩
  · obtain ⟨q, h1, e, hw, wq⟩ := realloc_has σ th.ptr (th.t.length + (2 + tag.len.toNat)) h own w
    rw [if_neg h0, run_bind, e]
    cases q with
    | none => exact ⟨.inl ⟨enomem_neg, rfl, _, hw rfl⟩, wq.clean, wq.fresh, ho⟩
    | some q => exact ⟨.inr rfl, wq.clean, wq.fresh, stored q⟩

theorem quickAddTagH_rep (σ : Nat → Bool) (th : TagsH) (num : Nat) (data : Bytes) (h : H) (own : List Nat) (l : Ledger th h own) :
    Rep σ own (· = th) ((quickAddTagH σ th num data).run h) (do let t ← quickAddTag th.t num data; .ok (0, t)) := by
  have ht' := quickAddTag_eq th.t num data
  unfold quickAddTagH
  obtain ⟨b, h1, e, hw, wb⟩ := malloc_has σ data.length h
  have wb := wb _ l.clean
  rw [run_bind, e, ht']
  cases b with
  | none => exact ⟨.inl ⟨enomem_neg, rfl, _, hw rfl⟩, wb.clean, l.fresh, l.owns⟩
  | some body =>
    -- the body block stands in `own` while the tag is added, the list's block while the body is released
    have ha := addTagH_rep σ th (createTag num data) ht' h1 _ (wb.swap l.fresh) l.owns
    simp only [run_bind, run_pure]
    generalize (addTagH σ th (createTag num data)).run h1 = res at ha ⊢
    have w2 := ha.ledger.has
    exact ⟨ha.res, free_has (w2.swap wb.not_mem_own), w2.not_mem_own, ha.ledger.owns⟩

/-- `libwifi_remove_tag` never needs an allocation to succeed: whatever the fault schedule, the result is the
pure model's (an equation, no failure case), and `Ledger` holds of what the call leaves -/
theorem removeTagH_spec (σ : Nat → Bool) (th : TagsH) (num : Nat) (h : H) (own : List Nat) (l : Ledger th h own) :
    let out := (removeTagH σ th num).run h
    removeTag th.t num = .ok (out.1.1, out.1.2.t) ∧ Ledger out.1.2 out.2 own := by
  unfold removeTagH removeTag
  cases hfind : findTag th.t num with
  | fault f => exact absurd hfind (findTag_no_fault _ _ f)
  | err c => exact ⟨rfl, l⟩
  | ok o =>
    cases o with
    | none => exact ⟨rfl, l⟩
    | some e =>
      have hsome : th.ptr.isSome := l.owns.2 (findTag_nonempty th.t num e hfind)
      simp only
      by_cases hz : th.t.length - (2 + e.len) = 0
      · rw [if_pos hz, run_bind]
        exact ⟨rfl, free_has l.has, nofun, fun _ => rfl, fun hh => absurd hz hh⟩
      · obtain ⟨q, h1, e1, -, wq⟩ := realloc_has σ th.ptr (th.t.length - (2 + e.len)) h own l.has
        rw [if_neg hz, run_bind, e1]
        cases q with
        | none => exact ⟨rfl, wq.clean, wq.fresh, fun hh => absurd hh hz, fun _ => hsome⟩
        | some q => exact ⟨rfl, wq.clean, wq.fresh, fun hh => absurd hh hz, fun _ => rfl⟩

/-- sequencing with the C's early return, against the same sequencing of the pure routines -/
theorem seq_rep (σ : Nat → Bool) {m1 : M (Int × TagsH)} {f : TagsH → M (Int × TagsH)} (h : H) (own : List Nat)
    {keep : TagsH → Prop} {p1 : Outcome (Int × Tags)} (p2 : Tags → Outcome (Int × Tags))
    (s1 : Rep σ own keep (m1.run h) p1) (s2 : ∀ th h', Ledger th h' own → Rep σ own keep ((f th).run h') (p2 th.t)) :
    Rep σ own keep ((do let (r, t) ← m1; if r ≠ 0 then pure (r, t) else f t : M (Int × TagsH)).run h)
      (do let (r, t) ← p1; if r ≠ 0 then .ok (r, t) else p2 t) := by
  rw [run_bind]
  generalize m1.run h = res at s1 ⊢
  obtain ⟨⟨r, t⟩, h1⟩ := res
  by_cases hr : r = 0
  · rw [s1.zero hr]
    simp only [hr, ne_eq, not_true_eq_false, if_false]
    exact s2 _ _ s1.ledger
  · simp only [hr, ne_eq, not_false_eq_true, if_true]
    refine ⟨s1.res.imp_right fun hp => ?_, s1.ledger⟩
    rw [hp]
    simp only [Outcome.bind_ok, hr, not_false_eq_true, if_true, run_pure]

/-- the setters under any fault schedule lose nothing previously stored: a failure can only come from the addition,
which leaves the list unchanged; the removal that follows cannot fail -/
theorem setTagH_rep (σ : Nat → Bool) (th : TagsH) (num : Nat) (data : Bytes) (h : H) (own : List Nat) (l : Ledger th h own) :
    Rep σ own (· = th) ((setTagH σ th num data).run h) (setTag th.t num data) := by
  obtain ⟨c, hc⟩ := checkTag_ok th.t num
  have hq := quickAddTag_eq th.t num data
  refine (seq_rep σ (m1 := quickAddTagH σ th num data)
    (f := fun t => if th.t.length ≠ 0 ∧ okOr (-999) (checkTag th.t num) > 0 then removeTagH σ t num else pure (0, t)) h own
    (fun t => if th.t.length ≠ 0 ∧ okOr (-999) (checkTag th.t num) > 0 then removeTag t num else .ok (0, t))
    (quickAddTagH_rep σ th num data h own l) fun th1 h1 l1 => ?_).of_eq ?_
  · split
    · obtain ⟨e, l2⟩ := removeTagH_spec σ th1 num h1 own l1
      exact ⟨.inr e, l2⟩
    · exact ⟨.inr rfl, l1⟩
  · rw [setTag_eq hc hq, hq, hc]
    rfl

theorem stepTagH_ledger (σ : Nat → Bool) (th : TagsH) (op : TagOp) (h : H) (own : List Nat) (l : Ledger th h own) :
    Ledger ((stepTagH σ th op).run h).1.2 ((stepTagH σ th op).run h).2 own := by
  cases op with
  | add n d => exact (quickAddTagH_rep σ th n d h own l).ledger
  | remove n => exact (removeTagH_spec σ th n h own l).2
  | setSsid d => exact (setTagH_rep σ th 0 d h own l).ledger
  | setChannel c => exact (setTagH_rep σ th 3 [c] h own l).ledger
  | check n => exact l

def runHistory (σ : Nat → Bool) : List TagOp → TagsH → M TagsH
  | [], th => pure th
  | op :: ops, th => do
    let (_, th') ← stepTagH σ th op
    runHistory σ ops th'

theorem runHistory_ledger (σ : Nat → Bool) (ops : List TagOp) (th : TagsH) (h : H) (own : List Nat) (l : Ledger th h own) :
    Ledger ((runHistory σ ops th).run h).1 ((runHistory σ ops th).run h).2 own := by
  induction ops generalizing th h with
  | nil => exact l
  | cons op ops ih => exact ih _ _ (stepTagH_ledger σ th op h own l)

/-- the shape shared by `parseReleaseH`, `parseDataReleaseH` and `wpaDataReleaseH`: the pure routine has
decided the result `r` and whether a copy of `n` bytes is wanted (`size = some n`); the copy is requested
and released again, and only its refusal shows, as `oom` -/
def scratch {β} (σ : Nat → Bool) (size : Option Nat) (r oom : β) : M β :=
  match size with
  | none => pure r
  | some n => do
    match ← malloc σ n with
    | none => pure oom
    | some p =>
      free (some p)
      pure r

section
variable {β : Type} {σ : Nat → Bool} {size : Option Nat} {r oom : β} {h : H}

/-- the result is `oom` exactly when a block is wanted and the schedule refuses the request issued at the
ledger's counter; the ledger is as before and one request is counted.  No hypothesis on `h`: the block
granted is `h.next`, put at the head of `live`, so its release finds it whatever else is live. -/
theorem scratch_spec :
    ((scratch σ size r oom).run h).1 = (if size.isSome ∧ σ h.reqs = true then oom else r) ∧
    ((scratch σ size r oom).run h).2.live = h.live ∧ ((scratch σ size r oom).run h).2.bad = h.bad ∧
    h.next ≤ ((scratch σ size r oom).run h).2.next ∧
    ((scratch σ size r oom).run h).2.reqs = h.reqs + if size.isSome then 1 else 0 := by
  cases size with
  | none => exact ⟨rfl, rfl, rfl, Nat.le_refl _, rfl⟩
  | some n =>
    by_cases hf : σ h.reqs = true
    · simp only [StateT.run, scratch, bind, StateT.bind, malloc, request, hf, if_true, pure, StateT.pure,
        Option.isSome_some, and_self, Nat.le_refl]
    · simp only [StateT.run, scratch, bind, StateT.bind, malloc, request, hf, Bool.false_eq_true, if_false, if_true, free, release,
        List.contains_eq_mem, List.mem_cons, true_or, decide_true, List.erase_cons_head, modify, modifyGet,
        MonadStateOf.modifyGet, StateT.modifyGet, pure, StateT.pure, Option.isSome_some, and_false, Nat.le_add_right,
        and_self]

theorem scratch_clean {own : List Nat} (c : Clean h own) : Clean ((scratch σ size r oom).run h).2 own :=
  c.of_same scratch_spec.2.1 scratch_spec.2.2.1 scratch_spec.2.2.2.1

theorem scratch_nf : ((scratch (fun _ => false) size r oom).run h).1 = r := by
  simp only [scratch_spec.1, Bool.false_eq_true, and_false, if_false]

theorem scratch_result :
    ((scratch σ size r oom).run h).1 = r ∨
    (((scratch σ size r oom).run h).1 = oom ∧ ∃ n, size = some n) := by
  rw [scratch_spec.1]
  split
  · next hc => exact Or.inr ⟨rfl, Option.isSome_iff_exists.mp hc.1⟩
  · exact Or.inl rfl

end

theorem parseReleaseH_eq (σ : Nat → Bool) (k : MKind) (f : Frame) :
    parseReleaseH σ k f = scratch σ (parseAllocSize k f) (parseMgmt k f) (.err (-ENOMEM)) := by
  unfold parseReleaseH scratch
  cases parseAllocSize k f <;> rfl

/-- `libwifi_parse_data` reaches its allocation exactly on the frames it accepts -/
def dataAllocSize (f : Frame) : Option Nat :=
  match parseData f with
  | .ok _ => some (f.len - f.headerLen)
  | _ => none

theorem parseDataReleaseH_eq (σ : Nat → Bool) (f : Frame) :
    parseDataReleaseH σ f = scratch σ (dataAllocSize f) (parseData f) (.err (-ENOMEM)) := by
  unfold parseDataReleaseH scratch dataAllocSize
  cases parseData f <;> rfl

theorem dataAllocSize_some {f : Frame} {n : Nat} (hs : dataAllocSize f = some n) : ∃ d, parseData f = .ok d := by
  unfold dataAllocSize at hs
  split at hs
  · next d hd => exact ⟨d, hd⟩
  · cases hs

/-- `libwifi_get_wpa_data` reaches its allocation on the frames it accepts with key data -/
def wpaAllocSize (f : Frame) : Option Nat :=
  match getWpaData f with
  | .ok d => if d.keyDataLength > 0 then some d.keyDataLength else none
  | _ => none

theorem wpaDataReleaseH_eq (σ : Nat → Bool) (f : Frame) :
    wpaDataReleaseH σ f = scratch σ (wpaAllocSize f) (getWpaData f) (.err (-ENOMEM)) := by
  unfold wpaDataReleaseH scratch wpaAllocSize
  cases getWpaData f with
  | ok d => dsimp only; split <;> rfl
  | err e => rfl
  | fault e => rfl

theorem wpaAllocSize_some {f : Frame} {n : Nat} (hs : wpaAllocSize f = some n) :
    ∃ d, getWpaData f = .ok d ∧ 0 < d.keyDataLength := by
  unfold wpaAllocSize at hs
  split at hs
  · next d hd =>
    split at hs
    · next hk => exact ⟨d, hd, hk⟩
    · cases hs
  · cases hs

theorem classifyCore_short {bs : Bytes} {skip : Nat} {fcs : Bool} {fl : Nat} {rt : Option RtInfo}
    (hc : fcs = true ∧ bs.length - skip < 4) : classifyCore bs skip fcs fl rt = .err (-EINVAL) := by
  unfold classifyCore
  exact if_pos hc

/-- the checks `libwifi_get_wifi_frame` makes before its first allocation are the first checks of the pure
classifier: what the pure classifier accepts has passed them -/
theorem classifyPre_ok_of_classify {rt : Bool} {bs : Bytes} {fr : Frame} (hc : classify rt bs = .ok fr) : ∃ x, classifyPre rt bs = .ok x := by
  unfold classify at hc
  unfold classifyPre
  cases rt with
  | false => exact ⟨_, rfl⟩
  | true =>
    simp only [if_true] at hc ⊢
    cases hp : parseRadiotapInfo bs with
    | ok info =>
      simp only [hp, Outcome.bind_ok] at hc ⊢
      split
      · next hs => rw [classifyCore_short ⟨decide_eq_true hs.1, hs.2⟩] at hc; cases hc
      · exact ⟨_, rfl⟩
    | err c => rw [hp] at hc; cases hc
    | fault f => rw [hp] at hc; cases hc

/-- what `libwifi_get_wifi_frame` can leave in `out` when the pure classifier says `o`: no frame and no body
copy, either because a request was refused, which is reported as `-ENOMEM`, or because the classifier does not
accept the input; or the classifier's frame, with return value 0 -/
def Classified (σ : Nat → Bool) (o : Outcome Frame) (out : (Int × FrameH) × H) : Prop :=
  (out.1.2.f = none ∧ out.1.2.bodyPtr = none ∧ ((out.1.1 = -ENOMEM ∧ ∃ k, σ k = true) ∨ ∀ fr, o ≠ .ok fr)) ∨
  ∃ fr, o = .ok fr ∧ out.1.1 = 0 ∧ out.1.2.f = some fr

theorem classifyTail_spec (σ : Nat → Bool) (rp : Ptr) (o : Outcome Frame) (h : H) :
    let out := (classifyTail σ rp o).run h
    Classified σ o out ∧ ∀ own, Has rp h own →
      (∀ id, out.1.2.rtPtr = some id → id ∉ own) ∧ Has out.1.2.bodyPtr out.2 (blocks out.1.2.rtPtr ++ own) := by
  have nobody : ∀ own, Has rp h own → (∀ id, rp = some id → id ∉ own) ∧ Has none h (blocks rp ++ own) :=
    fun _ w => ⟨w.fresh, has_none.mpr w.clean⟩
  unfold classifyTail
  cases o with
  | err c => exact ⟨.inl ⟨rfl, rfl, .inr fun _ h => by cases h⟩, nobody⟩
  | fault f => exact ⟨.inl ⟨rfl, rfl, .inr fun _ h => by cases h⟩, nobody⟩
  | ok fr =>
    dsimp only
    by_cases hb : fr.len - fr.headerLen > 0
    · obtain ⟨b, h1, e, hw, wb⟩ := malloc_has σ (fr.len - fr.headerLen) h
      rw [if_pos hb, run_bind, e]
      cases b with
      | none => exact ⟨.inl ⟨rfl, rfl, .inl ⟨rfl, _, hw rfl⟩⟩, fun _ w => ⟨w.fresh, wb _ w.clean⟩⟩
      | some b => exact ⟨.inr ⟨fr, rfl, rfl, rfl⟩, fun _ w => ⟨w.fresh, wb _ w.clean⟩⟩
    · rw [if_neg hb]
      exact ⟨.inr ⟨fr, rfl, rfl, rfl⟩, nobody⟩

/-- `libwifi_get_wifi_frame` from any ledger, on every path: what it returns, and the frame's two blocks
held beside whatever a clean ledger held (`C14Full.FrameInv`, in `Has` form) -/
theorem classifyH_spec (σ : Nat → Bool) (rt : Bool) (bs : Bytes) (h : H) :
    let out := (classifyH σ rt bs).run h
    Classified σ (classify rt bs) out ∧ ∀ own, Clean h own →
      (∀ id, out.1.2.rtPtr = some id → id ∉ own) ∧ Has out.1.2.bodyPtr out.2 (blocks out.1.2.rtPtr ++ own) := by
  have refused : (∀ x, classifyPre rt bs ≠ .ok x) → ∀ fr, classify rt bs ≠ .ok fr :=
    fun hx fr hc => (classifyPre_ok_of_classify hc).elim hx
  have nothing : ∀ h own, Clean h own → (∀ id, (none : Ptr) = some id → id ∉ own) ∧ Has none h (blocks none ++ own) :=
    fun _ _ c => ⟨nofun, has_none.mpr c⟩
  unfold classifyH
  cases hx : classifyPre rt bs with
  | err c => exact ⟨.inl ⟨rfl, rfl, .inr (refused fun _ hp => by cases hx.symm.trans hp)⟩, nothing h⟩
  | fault f => exact ⟨.inl ⟨rfl, rfl, .inr (refused fun _ hp => by cases hx.symm.trans hp)⟩, nothing h⟩
  | ok x =>
    cases rt with
    | false =>
      simp only [Bool.false_eq_true, if_false, pure_bind, false_and]
      exact (classifyTail_spec σ none _ h).imp_right fun t own c => t own (has_none.mpr c)
    | true =>
      obtain ⟨q, h1, e, hw, wq⟩ := malloc_has σ rtInfoSize h
      simp only [if_true, true_and, run_bind, e]
      cases q with
      | none => exact ⟨.inl ⟨rfl, rfl, .inl ⟨rfl, _, hw rfl⟩⟩, fun own c => nothing h1 own (wq own c).clean⟩
      | some id =>
        rw [Option.isNone_some, if_neg Bool.false_ne_true]
        exact (classifyTail_spec σ (some id) _ h1).imp_right fun t own c => t own (wq own c)

end LWV.Heap
