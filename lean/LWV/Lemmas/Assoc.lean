/-
Association lists, and the certificates by which the kernel checks distinctness and disjointness of
the regenerated tables in linear time: `strictAsc` of a sorted (`isort`) or merged (`mergeAsc`)
rearrangement.  Core Lean only.
-/
namespace LWV

theorem mem_of_lookup_eq_some {α β} [BEq α] [LawfulBEq α] {l : List (α × β)} {a : α} {b : β}
    (h : l.lookup a = some b) : (a, b) ∈ l := by
  obtain ⟨l₁, l₂, rfl, _⟩ := List.lookup_eq_some_iff.mp h
  exact List.mem_append_right _ List.mem_cons_self

theorem lookup_graph {α β} [BEq α] [LawfulBEq α] (f : α → β) (l : List α) (x : α) :
    (l.map (fun a => (a, f a))).lookup x = if x ∈ l then some (f x) else none := by
  induction l with
  | nil => rfl
  | cons a l ih =>
    rw [List.map_cons, List.lookup_cons, ih]
    by_cases h : x = a
    · subst h
      rw [beq_self_eq_true, if_pos List.mem_cons_self]
    · rw [beq_false_of_ne h]
      exact ite_congr (propext ⟨List.mem_cons_of_mem a, fun h' => (List.mem_cons.1 h').resolve_left h⟩)
        (fun _ => rfl) (fun _ => rfl)

theorem find?_filterMap_singleton {β} (f : Nat → Option (Nat × β)) (hf : ∀ b r, f b = some r → r.1 = b) (n b : Nat) :
    ([n].filterMap f).find? (fun e => e.1 == b) = if b = n then f n else none := by
  cases hn : f n with
  | none => simp [hn]
  | some r =>
    have hr := hf n r hn
    by_cases h : b = n
    · simp [hn, hr, h]
    · simp [hn, hr, h, Ne.symm h]

theorem find?_filterMap_range {β} (f : Nat → Option (Nat × β)) (hf : ∀ b r, f b = some r → r.1 = b) (n b : Nat) :
    ((List.range n).filterMap f).find? (fun e => e.1 == b) = if b < n then f b else none := by
  induction n with
  | zero => rfl
  | succ n ih =>
    rw [List.range_succ, List.filterMap_append, List.find?_append, ih, find?_filterMap_singleton f hf]
    by_cases h1 : b < n
    · rw [if_pos h1, if_neg (Nat.ne_of_lt h1), if_pos (Nat.lt_succ_of_lt h1), Option.or_none]
    · by_cases h2 : b = n
      · subst h2; rw [if_neg h1, if_pos rfl, if_pos (Nat.lt_succ_self b), Option.none_or]
      · rw [if_neg h1, if_neg h2, if_neg fun h => (Nat.lt_succ_iff_lt_or_eq.mp h).elim h1 h2]; rfl

theorem eq_of_nodup_map {α β} {f : α → β} {l : List α} (nd : (l.map f).Nodup) {x y : α}
    (hx : x ∈ l) (hy : y ∈ l) (h : f x = f y) : x = y :=
  have p : l.Pairwise fun a b => f a ≠ f b := List.pairwise_map.mp nd
  List.Pairwise.forall_of_forall_of_flip (R := fun a b => f a = f b → a = b) (fun _ _ _ => rfl)
    (p.imp fun ne e => absurd e ne) (p.imp fun ne e => absurd e.symm ne) hx hy h

theorem lookup_eq_some_of_mem {α β} [BEq α] [LawfulBEq α] {l : List (α × β)} {a : α} {b : β}
    (nd : (l.map (·.1)).Nodup) (h : (a, b) ∈ l) : l.lookup a = some b := by
  cases hl : l.lookup a with
  | none => exact absurd (List.lookup_eq_none_iff.mp hl _ h) (by simp)
  | some b' => exact congrArg (fun p => some p.2) (eq_of_nodup_map nd (mem_of_lookup_eq_some hl) h rfl)

/-- Association lists that are converses of each other (as sets of pairs) define the same
partial function if the keys of the first are distinct. -/
theorem lookup_converse {α β} [BEq α] [LawfulBEq α] [BEq β] [LawfulBEq β]
    {l : List (α × β)} {r : List (β × α)}
    (ndl : (l.map (·.1)).Nodup) (h : ∀ a b, (a, b) ∈ l ↔ (b, a) ∈ r) (a : α) :
    l.lookup a = (r.find? (fun q => q.2 == a)).map (·.1) := by
  cases hf : r.find? (fun q => q.2 == a) with
  | none =>
    refine List.lookup_eq_none_iff.mpr fun p hp => bne_iff_ne.mpr fun e => ?_
    exact List.find?_eq_none.mp hf _ ((h _ _).mp hp) (beq_iff_eq.mpr e.symm)
  | some q =>
    obtain rfl : q.2 = a := by simpa using List.find?_some hf
    exact lookup_eq_some_of_mem ndl ((h _ _).mpr (List.mem_of_find?_eq_some hf))

/-- structural insertion sort (reduces in the kernel, unlike `List.mergeSort`) -/
def insertBy {α} (key : α → Int) (x : α) : List α → List α
  | [] => [x]
  | y :: ys => if key x ≤ key y then x :: y :: ys else y :: insertBy key x ys

def isort {α} (key : α → Int) (l : List α) : List α := l.foldr (insertBy key) []

theorem insertBy_perm {α} (key : α → Int) (x : α) (l : List α) : (insertBy key x l).Perm (x :: l) := by
  induction l with
  | nil => exact List.Perm.refl _
  | cons y ys ih =>
    unfold insertBy
    split
    · exact List.Perm.refl _
    · exact (List.Perm.cons y ih).trans (List.Perm.swap x y ys)

theorem isort_perm {α} (key : α → Int) (l : List α) : (isort key l).Perm l := by
  induction l with
  | nil => exact List.Perm.refl _
  | cons y ys ih =>
    exact (insertBy_perm key y _).trans (List.Perm.cons y ih)

/-- O(n) distinctness check for a list that is (after sorting) strictly ascending -/
def strictAsc : List Int → Bool
  | [] => true
  | [_] => true
  | x :: y :: t => decide (x < y) && strictAsc (y :: t)

theorem strictAsc_pairwise (l : List Int) (h : strictAsc l = true) : l.Pairwise (· < ·) := by
  fun_induction strictAsc l with
  | case1 => exact .nil
  | case2 => exact List.pairwise_singleton _ _
  | case3 x y t ih =>
    obtain ⟨hxy, ht⟩ := Bool.and_eq_true_iff.mp h
    have ih := ih ht
    refine List.pairwise_cons.mpr ⟨fun z hz => ?_, ih⟩
    rcases List.mem_cons.mp hz with rfl | hz
    · exact of_decide_eq_true hxy
    · exact Int.lt_trans (of_decide_eq_true hxy) (List.rel_of_pairwise_cons ih hz)

theorem strictAsc_nodup {l : List Int} (h : strictAsc l = true) : l.Nodup :=
  (strictAsc_pairwise l h).imp Int.ne_of_lt

/-- The certificate behind every distinctness and disjointness fact about the regenerated tables:
some rearrangement of the list is strictly ascending.  The kernel evaluates `strictAsc` in O(n). -/
theorem nodup_of_perm_strictAsc {l s : List Int} (p : s.Perm l) (h : strictAsc s = true) : l.Nodup :=
  p.nodup_iff.mp (strictAsc_nodup h)

/-- `isort` takes O(n) kernel steps when the list is already ascending -/
theorem nodup_of_sorted_strictAsc {l : List Int} (h : strictAsc (isort id l) = true) : l.Nodup :=
  nodup_of_perm_strictAsc (isort_perm id l) h

/-- Merge of two ascending lists, structural in the fuel so that the kernel can run it.  When the
fuel runs out the rest is appended unmerged: the result is a permutation of `a ++ b` whatever the
fuel, and `a.length + b.length` is enough fuel for a full merge. -/
def mergeAsc : Nat → List Int → List Int → List Int
  | 0, a, b => a ++ b
  | _ + 1, [], b => b
  | _ + 1, x :: a, [] => x :: a
  | f + 1, x :: a, y :: b =>
    if x ≤ y then x :: mergeAsc f a (y :: b) else y :: mergeAsc f (x :: a) b

theorem mergeAsc_perm (f : Nat) (a b : List Int) : (mergeAsc f a b).Perm (a ++ b) := by
  fun_induction mergeAsc f a b with
  | case1 => exact .refl _
  | case2 => exact .refl _
  | case3 => exact .of_eq (List.append_nil _).symm
  | case4 _ x _ _ _ _ ih => exact ih.cons x
  | case5 _ _ _ y _ _ ih => exact (ih.cons y).trans List.perm_middle.symm

/-- two lists are distinct and disjoint if their merge ascends strictly: O(|a| + |b|) kernel steps when
both ascend, where deciding `∀ x ∈ a, x ∉ b` takes |a|·|b| steps -/
theorem nodup_append_of_merge_strictAsc {a b : List Int}
    (h : strictAsc (mergeAsc (a.length + b.length) a b) = true) : (a ++ b).Nodup :=
  nodup_of_perm_strictAsc (mergeAsc_perm _ a b) h

end LWV
