import LWV.Model.Classify
import LWV.Spec.Classify
import LWV.Lemmas.Outcome
/-
C02 — frame classification slices radiotap, header, body and FCS exactly.

The model reads at offsets of the buffer, the Spec slices the frame proper `(bs.drop skip).take n`.
`coreOf` is the Spec on that frame; `sel_eq` matches the choice of header size and flags, no octets
involved; `rd_frame` / `rdSlice_frame` turn the model's reads into reads of the frame proper; and
`C02_core_any` walks the classifier once, for both modes (`C02_plain`, `C02_radiotap`).  The radiotap
mode against the Spec alone, the error codes and prefix invariance are in `Props/C02Full.lean`.
-/
namespace LWV.Props.C02
open LWV LWV.Model

/-- **C02 (tables)** the QoS subtype list and the header sizes the classifier uses are the standard's -/
theorem C02_tables :
    Gen.qosSubtypes = Spec.qosSubtypes ∧
    Gen.sz_libwifi_mgmt_ordered_frame_header = 28 ∧ Gen.sz_libwifi_mgmt_unordered_frame_header = 24 ∧
    Gen.sz_libwifi_ctrl_frame_header = 4 ∧ Gen.sz_libwifi_data_frame_header = 24 ∧ Gen.sz_libwifi_data_qos_frame_header = 26 ∧
    flagFcs = 1 ∧ flagQos = 2 ∧ flagOrdered = 4 ∧ flagRadiotap = 8 := by decide +kernel

/-- what the classifier must return for given Spec slices -/
def frameOf (s : Spec.Slices) (flags0 : Nat) (rt : Option RtInfo) : Frame :=
  { flags := ((flags0 ||| (if s.fcs then 1 else 0)) ||| (if s.qos then 2 else 0)) ||| (if s.ordered then 4 else 0),
    fc := s.fc, len := s.len, headerLen := s.headerLen, header := s.header, body := s.body, radiotap := rt }

theorem fcOrdered_eq (b1 : UInt8) : fcOrdered b1 = decide (b1.toNat ≥ 128) :=
  decide_eq_decide.mpr ((Nat.div_eq_iff (by decide)).trans ⟨fun h => h.1, fun h => ⟨h, Nat.le_of_lt_succ b1.toNat_lt⟩⟩)

/-- header selection, no octets involved: the classifier's choice of header size and flags is the
Spec's `hdrLen`, with the QoS and Order flags set exactly for QoS data and ordered management -/
theorem sel_eq (ty st : Nat) (o : Bool) (fl : Nat) :
    (if ty = 2 then
      if Gen.qosSubtypes.contains st then some (Gen.sz_libwifi_data_qos_frame_header, fl ||| flagQos)
      else some (Gen.sz_libwifi_data_frame_header, fl)
    else if ty = 0 then
      if o then some (Gen.sz_libwifi_mgmt_ordered_frame_header, fl ||| flagOrdered)
      else some (Gen.sz_libwifi_mgmt_unordered_frame_header, fl)
    else if ty = 1 then some (Gen.sz_libwifi_ctrl_frame_header, fl)
    else none : Option (Nat × Nat)) =
    (Spec.hdrLen ty st o).map fun h =>
      (h, (fl ||| (if ty = 2 ∧ st ∈ Spec.qosSubtypes then 2 else 0)) ||| (if ty = 0 ∧ o then 4 else 0)) := by
  obtain ⟨hq, h28, h24, h4, hd24, hd26, _, hQ, hO, _⟩ := C02_tables
  rw [hq, h28, h24, h4, hd24, hd26, hQ, hO]
  unfold Spec.hdrLen
  match ty with
  | 0 => cases o <;> simp
  | 1 => simp
  | 2 => by_cases hm : st ∈ Spec.qosSubtypes <;> simp [hm]
  | _ + 3 => simp

theorem fcsFlag_eq (fcs : Bool) (fl : Nat) : (if fcs then fl ||| flagFcs else fl) = fl ||| (if fcs then 1 else 0) := by
  cases fcs
  · exact (Nat.or_zero fl).symm
  · rfl

/-- an octet of the frame proper `(bs.drop skip).take n` is read at `skip + i` -/
theorem rd_frame {w : String} {bs : Bytes} {skip n : Nat} (i : Nat) {b : UInt8} (h : ((bs.drop skip).take n)[i]? = some b) :
    rd w bs (skip + i) = .ok b := by
  rw [List.getElem?_take] at h
  split at h
  · exact rd_of_drop h
  · cases h

/-- header and body of the frame proper `(bs.drop skip).take n` -/
theorem rdSlice_frame {w : String} {bs : Bytes} {skip n hl : Nat} (hs : skip ≤ bs.length) (hn : n ≤ (bs.drop skip).length)
    (hle : hl ≤ n) :
    rdSlice w bs skip hl = .ok (((bs.drop skip).take n).take hl) ∧
    rdSlice w bs (skip + hl) (n - hl) = .ok (((bs.drop skip).take n).drop hl) := by
  rw [List.length_drop] at hn
  have hfit : skip + n ≤ bs.length := Nat.add_le_of_le_sub' hs hn
  have hbody : skip + hl + (n - hl) ≤ bs.length := by rw [Nat.add_assoc, Nat.add_sub_of_le hle]; exact hfit
  rw [rdSlice_ok (Nat.le_trans (Nat.add_le_add_left hle skip) hfit), rdSlice_ok hbody, List.take_take, Nat.min_eq_left hle,
    List.drop_take, List.drop_drop]
  exact ⟨rfl, rfl⟩

/-- the Spec's classification of a frame proper (`Spec.classifyCore` after the radiotap header and
the FCS have been removed) -/
def coreOf (frame : Bytes) (fcs : Bool) : Option Spec.Slices :=
  match frame with
  | b0 :: b1 :: _ =>
    let ty := (b0.toNat / 4) % 4
    let st := b0.toNat / 16
    let order := b1.toNat ≥ 128
    match Spec.hdrLen ty st order with
    | none => none
    | some h =>
      if frame.length < h then none
      else some { fcs := fcs, qos := ty = 2 ∧ st ∈ Spec.qosSubtypes, ordered := ty = 0 ∧ order, len := frame.length, headerLen := h,
                  fc := [b0, b1], header := frame.take h, body := frame.drop h }
  | _ => none

theorem classifyCore_coreOf (bs : Bytes) (skip : Nat) (fcs : Bool) :
    Spec.classifyCore bs skip fcs =
      if fcs ∧ (bs.drop skip).length < 4 then none
      else coreOf (if fcs then (bs.drop skip).take ((bs.drop skip).length - 4) else bs.drop skip) fcs := rfl

theorem classifyCore_plain (bs : Bytes) : Spec.classifyCore bs 0 false = coreOf bs false := rfl

theorem hdrLen_bounds {ty st : Nat} {o : Bool} {h : Nat} (hh : Spec.hdrLen ty st o = some h) : 4 ≤ h ∧ (ty ≠ 1 → 24 ≤ h) := by
  unfold Spec.hdrLen at hh
  split at hh
  · cases hh; cases o <;> exact ⟨by decide, fun _ => by decide⟩
  · cases hh; exact ⟨Nat.le_refl 4, fun hne => absurd rfl hne⟩
  · cases hh; split <;> exact ⟨by decide, fun _ => by decide⟩
  · cases hh

/-- inversion of `coreOf`: an accepted frame has two frame-control octets and a header that fits -/
theorem coreOf_some {frame : Bytes} {fcs : Bool} {s : Spec.Slices} (h : coreOf frame fcs = some s) :
    ∃ (b0 b1 : UInt8) (hl : Nat), Spec.hdrLen (b0.toNat / 4 % 4) (b0.toNat / 16) (decide (b1.toNat ≥ 128)) = some hl ∧
      hl ≤ frame.length ∧ s.fc = [b0, b1] ∧ s.len = frame.length ∧ s.headerLen = hl ∧ s.header = frame.take hl ∧ s.body = frame.drop hl := by
  unfold coreOf at h
  split at h
  · dsimp only at h
    split at h
    · cases h
    · split at h
      · cases h
      · cases h
        exact ⟨_, _, _, ‹_›, Nat.le_of_not_lt ‹_›, rfl, rfl, rfl, rfl, rfl⟩
  · cases h

theorem coreOf_short (frame : Bytes) (fcs : Bool) (h : frame.length < 4) : coreOf frame fcs = none := by
  cases hc : coreOf frame fcs with
  | none => rfl
  | some s =>
    obtain ⟨_, _, hl, hh, hle, _⟩ := coreOf_some hc
    exact absurd (Nat.le_trans (hdrLen_bounds hh).1 hle) (Nat.not_le.mpr h)

theorem coreOf_fcs (frame : Bytes) (c : Bool) :
    coreOf frame c = (coreOf frame false).map fun s => { s with fcs := c } := by
  unfold coreOf
  split
  · dsimp only
    split
    · rfl
    · rw [apply_ite (Option.map _)]; rfl
  · rfl

/-- the frame proper is a prefix of what follows the radiotap header, of the length the classifier computes -/
theorem frame_take (rest : Bytes) (fcs : Bool) :
    ∃ n, n ≤ rest.length ∧ (if fcs then rest.length - 4 else rest.length) = n ∧
      (if fcs then rest.take (rest.length - 4) else rest) = rest.take n := by
  cases fcs
  · exact ⟨_, Nat.le_refl _, rfl, (List.take_length ..).symm⟩
  · exact ⟨_, Nat.sub_le _ _, rfl, rfl⟩

theorem C02_core_any (bs : Bytes) (skip : Nat) (fcs : Bool) (flags0 : Nat) (rt : Option RtInfo) :
    classifyCore bs skip fcs flags0 rt =
      match Spec.classifyCore bs skip fcs with
      | none => .err (-EINVAL)
      | some s => .ok (frameOf s flags0 rt) := by
  unfold classifyCore
  rw [classifyCore_coreOf, ← List.length_drop]
  by_cases hshort : fcs = true ∧ (bs.drop skip).length < 4
  · rw [if_pos hshort, if_pos hshort]
  · obtain ⟨n, hn, hdl, hfp⟩ := frame_take (bs.drop skip) fcs
    rw [if_neg hshort, if_neg hshort, hfp]
    dsimp only
    rw [hdl]
    generalize hfr : (bs.drop skip).take n = frame
    have hlen : frame.length = n := by rw [← hfr, List.length_take]; exact Nat.min_eq_left hn
    unfold coreOf
    rcases frame with _ | ⟨b0, _ | ⟨b1, t⟩⟩
    · rw [if_pos (by rw [← hlen]; exact Nat.zero_lt_two)]
    · rw [if_pos (by rw [← hlen]; exact Nat.one_lt_two)]
    · have e0 : rd "frame" bs skip = .ok b0 := rd_frame (n := n) 0 (by rw [hfr]; rfl)
      have e1 : rd "frame" bs (skip + 1) = .ok b1 := rd_frame (n := n) 1 (by rw [hfr]; rfl)
      have h2 : ¬ n < 2 := by rw [← hlen]; exact Nat.not_lt.mpr (Nat.le_add_left 2 t.length)
      -- at least two octets lie behind `skip`, so `skip` is inside the buffer: `C02_core`'s hypothesis is not needed
      have hskip : skip ≤ bs.length := by
        rw [List.length_drop] at hn
        exact Nat.le_of_lt (Nat.lt_of_sub_pos (Nat.lt_of_lt_of_le Nat.zero_lt_two (Nat.le_trans (Nat.le_of_not_lt h2) hn)))
      rw [if_neg h2, e0, e1, Outcome.bind_ok, Outcome.bind_ok, fcOrdered_eq, sel_eq, hlen]
      unfold fcType fcSubtype
      dsimp only
      -- from here on the type of the frame plays no role: only the header length the Spec assigns
      cases hh : Spec.hdrLen (b0.toNat / 4 % 4) (b0.toNat / 16) (decide (b1.toNat ≥ 128)) with
      | none => rfl
      | some h =>
        dsimp only [Option.map_some]
        by_cases hl : n < h
        · rw [if_pos hl, if_pos hl]
        · obtain ⟨s1, s2⟩ := rdSlice_frame (w := "frame") hskip hn (Nat.le_of_not_lt hl)
          rw [if_neg hl, if_neg hl, s1, s2, hfr, Outcome.bind_ok, Outcome.bind_ok]
          simp only [frameOf, fcsFlag_eq, decide_eq_true_eq]

/-- **C02 (core)** for EVERY buffer, every radiotap length already removed and every FCS
announcement: the classifier accepts exactly the frames the Spec accepts, refuses all others with
an error, and on acceptance reports exactly the Spec's slices and flags. -/
theorem C02_core (bs : Bytes) (skip : Nat) (hskip : skip ≤ bs.length) (fcs : Bool) (flags0 : Nat) (rt : Option RtInfo) :
    classifyCore bs skip fcs flags0 rt =
      match Spec.classifyCore bs skip fcs with
      | none => .err (-EINVAL)
      | some s => .ok (frameOf s flags0 rt) :=
  C02_core_any bs skip fcs flags0 rt

theorem classifyCore_sim (bs : Bytes) (skip : Nat) (fcs : Bool) (flags0 : Nat) (rt : Option RtInfo) :
    Sim (fun f s => f = frameOf s flags0 rt) (classifyCore bs skip fcs flags0 rt) (Spec.classifyCore bs skip fcs) := by
  rw [C02_core_any]
  cases Spec.classifyCore bs skip fcs with
  | none => exact Sim.err
  | some s => exact Sim.ok rfl

/-- **C02 (no radiotap)** for every input: acceptance, refusal and slices are exactly the Spec's -/
theorem C02_plain (bs : Bytes) :
    classify false bs =
      match Spec.classifyCore bs 0 false with
      | none => .err (-EINVAL)
      | some s => .ok (frameOf s 0 none) := by
  unfold classify
  rw [if_neg Bool.false_ne_true]
  exact C02_core_any bs 0 false 0 none

/-- **C02 (radiotap)** with a radiotap prefix: whatever header the radiotap parser accepts (its
reported length and flags — C09), the remainder is classified exactly as the Spec says, with the
FCS removed when the flags announce it; a refused header refuses the frame -/
theorem C02_radiotap (bs : Bytes) :
    classify true bs =
      match parseRadiotapInfo bs with
      | .ok info =>
        (match Spec.classifyCore bs info.length ((info.flags / 16) % 2 = 1) with
          | none => .err (-EINVAL)
          | some s => .ok (frameOf s 8 (some info)))
      | .err c => .err c
      | .fault f => .fault f := by
  unfold classify
  rw [if_pos rfl]
  cases parseRadiotapInfo bs with
  | err _ | fault _ => rfl
  | ok info => exact C02_core_any bs info.length _ _ (some info)

/-- data-frame extraction; the header has to hold the two addresses only when the frame is a data frame -/
theorem parseData_eq (f : Frame) (b0 b1 : UInt8) (hfc : f.fc = [b0, b1]) (hh : fcType b0 = 2 → 16 ≤ f.header.length) :
    parseData f = if fcType b0 = 2 then .ok ⟨(f.header.drop 4).take 6, (f.header.drop 10).take 6, f.body⟩ else .err (-EINVAL) := by
  unfold parseData
  rw [hfc]
  dsimp only
  by_cases h : fcType b0 = 2
  · rw [if_pos h, if_neg (not_not_intro h), rdSlice_of_le (hh h) (by decide), Outcome.bind_ok,
      rdSlice_of_le (hh h) (by decide), Outcome.bind_ok]
  · rw [if_neg h, if_pos h]

/-- **C02 (data)** data-frame extraction: address 1 is the receiver, address 2 the transmitter,
the body is the frame's body; any other type is refused -/
theorem C02_data (f : Frame) (b0 b1 : UInt8) (hfc : f.fc = [b0, b1]) (hh : 16 ≤ f.header.length) :
    parseData f = if fcType b0 = 2 then .ok ⟨(f.header.drop 4).take 6, (f.header.drop 10).take 6, f.body⟩ else .err (-EINVAL) :=
  parseData_eq f b0 b1 hfc fun _ => hh

/-! a QoS-null frame of exactly 26 octets is accepted with header length 26; one octet less is refused -/
example : classify false ([0xc8, 0x00] ++ List.replicate 24 0) =
    .ok { flags := 2, fc := [0xc8, 0], len := 26, headerLen := 26, header := [0xc8, 0] ++ List.replicate 24 0, body := [], radiotap := none } := by
  decide +kernel
example : classify false ([0xc8, 0x00] ++ List.replicate 23 0) = .err (-EINVAL) := by decide +kernel

end LWV.Props.C02
