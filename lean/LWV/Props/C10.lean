import LWV.Lemmas.RtGen
/-
C10 — generated radiotap headers are valid and decode to the same values.

Here: for every description with at most 16 antennas the generator's output is exactly the Spec
encoding — version 0, pad 0, length field = number of bytes produced, the requested present word, and
each selected field little-endian at its naturally aligned offset in bit order (`C10_valid_all`;
`C10_valid`, `C10_header` for descriptions of carried fields) — and at most 128 octets long (`rtEncode_length_le`).
The decode-back clause is proved in `Props/C10Full.lean` (`C10_roundtrip`, `C10_roundtrip_fields`,
`C10_roundtrip_statement`, in the namespace `C09Full`), on top of the simulation of the iterator in
`Props/C09Full.lean`; prefix invariance (`C10_prefix_invariance`) is in `Props/C02Full.lean`.
-/
namespace LWV.Props.C10
open LWV LWV.Model

/-- what `libwifi_create_radiotap` is asked to encode, as the Spec's encoder takes it: the present word and,
for each field number, the octets the generator emits for it -/
def descOf (g : RtGen) : Spec.RtDesc := ⟨g.present, rtGenField g⟩

/-- every selected field is one the generator emits at its specified size (`Spec.carried`).  For any other
selected field `libwifi_create_radiotap` writes no octets (for ANTENNA: one pair per antenna), so the header is
still the Spec encoding of `descOf g` but does not decode back: the round trip needs this, validity does not -/
def OnlyCarried (g : RtGen) : Prop := ∀ f, g.present.testBit f = true → f ∈ Spec.carried

/-- the generator's output is the Spec encoding for every description with at most the documented 16
antennas: fields the table does not define are skipped by the loop and have no Spec row, fields the
generator does not carry have an empty value on both sides -/
theorem C10_valid_all (g : RtGen) (ha : g.antennaCount ≤ 16) :
    createRadiotap g = .ok (Spec.rtEncode (descOf g)) := by
  unfold createRadiotap
  rw [(rtGenLoop_table g ha).1, rtEncode_body]
  rfl

/-- that header stays within the documented maximum `LIBWIFI_MAX_RADIOTAP_LEN` -/
theorem rtEncode_length_le (g : RtGen) (ha : g.antennaCount ≤ 16) : (Spec.rtEncode (descOf g)).length ≤ 128 := by
  have h : (Spec.rtTable.foldl (specStep (descOf g)) []).length ≤ 54 + 2 * g.antennaCount := (rtGenLoop_table g ha).2
  rw [rtEncode_length]
  omega

/-- **C10 (valid)** the octets `libwifi_create_radiotap` writes are the Spec encoding of the description: version
0, the total length, the present word, every selected field little-endian at its aligned offset in bit order -/
theorem C10_valid (g : RtGen) (hc : OnlyCarried g) (ha : g.antennaCount ≤ 16) :
    createRadiotap g = .ok (Spec.rtEncode (descOf g)) :=
  C10_valid_all g ha

/-- the generated header announces exactly its own size, version 0 and the requested present word -/
theorem C10_header (g : RtGen) (hc : OnlyCarried g) (ha : g.antennaCount ≤ 16) :
    ∃ h body, createRadiotap g = .ok h ∧ h = [0, 0] ++ leBytes 2 h.length ++ leBytes 4 g.present ++ body := by
  refine ⟨_, Spec.rtTable.foldl (specStep (descOf g)) [], C10_valid g hc ha, ?_⟩
  rw [rtEncode_length]
  rfl

/-- the generated header is accepted by the parser, which reports the header's own length (the values
themselves: `C09Full.C10_roundtrip_fields`) -/
def C10_roundtrip_statement : Prop :=
  ∀ g : RtGen, OnlyCarried g → g.antennaCount ≤ 16 →
    ∃ h info, createRadiotap g = .ok h ∧ parseRadiotapInfo h = .ok info ∧ info.length = h.length

theorem onlyCarried_of_subset (g : RtGen) (h : g.present ||| Spec.carriedMask = Spec.carriedMask) : OnlyCarried g := by
  intro f hf
  have hm : Spec.carriedMask.testBit f = true := by
    rw [← h, Nat.testBit_or, hf]; rfl
  by_cases hlt : f < 23
  · have : ∀ k, k < 23 → Spec.carriedMask.testBit k = true → k ∈ Spec.carried := by decide +kernel
    exact this f hlt hm
  · rw [testBit_of_lt (show Spec.carriedMask < 2 ^ 23 by decide) (Nat.le_of_not_lt hlt)] at hm
    cases hm

/-! FLAGS | TIMESTAMP: the timestamp is aligned to 8, so seven octets of padding bring it to offset 16. -/
example : OnlyCarried { present := 0x400002 } := onlyCarried_of_subset _ (by decide)
example : createRadiotap { present := 0x400002, flags := 0x10, tsTimestamp := 0x1122334455667788, tsAccuracy := 3, tsUnit := 4, tsFlags := 5 }
    = .ok [0, 0, 28, 0, 2, 0, 0x40, 0, 0x10, 0, 0, 0, 0, 0, 0, 0, 0x88, 0x77, 0x66, 0x55, 0x44, 0x33, 0x22, 0x11, 3, 0, 4, 5] := by
  decide +kernel

end LWV.Props.C10
