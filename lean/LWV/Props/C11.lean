import LWV.Lemmas.Crc
import LWV.Lemmas.Endian
import LWV.Lemmas.Outcome
/-
C11 — CRC-32 and frame-check-sequence verification are exact.
-/
namespace LWV.Props.C11
open LWV LWV.Model

/-- **C11 (crc)** the byte-wise C loop computes the IEEE 802.3 CRC-32 (bit-serial LFSR over the
message bits in transmission order) for every message -/
theorem C11_crc (m : Bytes) : Model.crc32 m = Spec.crc32 m := by
  unfold Model.crc32 Spec.crc32
  rw [foldl_crcByte]

theorem C11_check_value :
    Model.crc32 [0x31, 0x32, 0x33, 0x34, 0x35, 0x36, 0x37, 0x38, 0x39] = 0xCBF43926#32 := by decide +kernel

theorem C11_check_empty : Model.crc32 [] = 0#32 := by decide +kernel
theorem C11_check_zero : Model.crc32 [0] = 0xD202EF8D#32 := by decide +kernel
theorem C11_check_a : Model.crc32 [0x61] = 0xE8B7BE43#32 := by decide +kernel

/-- **C11 (fcs)** the in-memory bytes of the FCS routine's value are the on-air FCS octets -/
theorem C11_fcs_bytes (m : Bytes) : leBytes 4 (calculateFcs m).toNat = Spec.fcsOctets m := by
  unfold calculateFcs Spec.fcsOctets
  rw [C11_crc]

/-- **C11 (verify)** for EVERY frame: the answer is yes exactly when the frame holds at least four
octets and the last four are the FCS of the octets before them; shorter frames are answered no
without any read -/
theorem C11_verify (f : Bytes) :
    frameVerify f = .ok (if 4 ≤ f.length ∧ f.drop (f.length - 4) = Spec.fcsOctets (f.take (f.length - 4)) then 1 else 0) := by
  unfold frameVerify
  by_cases h : f.length < 4
  · rw [if_pos h, if_neg fun h4 => Nat.not_le_of_lt h h4.1]
  · have h4 : 4 ≤ f.length := Nat.le_of_not_lt h
    have hl : (f.drop (f.length - 4)).length = 4 := by rw [List.length_drop, Nat.sub_sub_self h4]
    -- equal as numbers iff equal as four octets
    have hiff := eq_leNat_iff (bs := f.drop (f.length - 4)) (v := (calculateFcs (f.take (f.length - 4))).toNat)
      (by rw [hl]; exact BitVec.isLt _)
    rw [hl, C11_fcs_bytes] at hiff
    rw [if_neg h, rdSlice_rest (Nat.sub_add_cancel h4), Outcome.bind_ok]
    simp only [hiff, h4, true_and]

def xorBytes (m e : Bytes) : Bytes := List.zipWith (· ^^^ ·) m e

/-- an error pattern (as octets) all of whose set bits lie within 32 consecutive bit positions
of the transmitted bit stream, and which is not zero -/
def IsBurst32 (e : Bytes) : Prop := IsBurstBits (messageBits e)

/-- **C11 (detects)** every non-zero error confined to at most 32 consecutive bits — in
particular every single-bit error — changes the checksum, for every message of every length -/
theorem C11_detects (m e : Bytes) (hl : e.length = m.length) (hb : IsBurst32 e) :
    Model.crc32 (xorBytes m e) ≠ Model.crc32 m := by
  have hx := foldl_crcByte_xor 0xFFFFFFFF#32 0#32 m e hl.symm
  rw [BitVec.xor_zero] at hx
  unfold Model.crc32 xorBytes
  rw [hx, foldl_crcByte 0#32 e, Ne, BitVec.not_inj]
  exact fun hc => burst_nonzero hb ((BitVec.xor_right_inj _).mp (hc.trans BitVec.xor_zero.symm))

theorem single_bit_is_burst (pre post : Nat) (k : Fin 8) :
    IsBurst32 (List.replicate pre 0 ++ [UInt8.ofNat (2 ^ k.val)] ++ List.replicate post 0) := by
  have hz : ∀ n, messageBits (List.replicate n (0 : UInt8)) = List.replicate (8 * n) false := fun n => by
    rw [messageBits, List.flatMap_replicate, show octetBits 0 = List.replicate 8 false by decide +kernel,
      List.flatten_replicate_replicate, Nat.mul_comm]
  refine ⟨8 * pre, octetBits (UInt8.ofNat (2 ^ k.val)), 8 * post, ?_, by simp [octetBits_length], ?_⟩
  · rw [← hz, ← hz, messageBits, List.flatMap_append, List.flatMap_append, List.flatMap_singleton]
    rfl
  · revert k; decide +kernel

end LWV.Props.C11
