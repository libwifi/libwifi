import LWV.Lemmas.Frames
import LWV.Props.C05
import LWV.Props.C20
/-
C03 — generated frames are byte-exact 802.11 encodings of their arguments: constants, layout, creation and
appended tags / details here; arbitrary edit histories in Props/C03Full.lean.
An object is `Good` when it serialises to the Spec frame of a reference state (elements, details).  By
`good_iff` that is the relation `WF` to the reference state plus two facts about the static part, which no
edit changes; so creation establishes `Good` once (`good_create_any`) and an edit only has to re-establish
`WF` (`Good.transfer`).
-/
namespace LWV.Props.C03
open LWV LWV.Model LWV.Spec LWV.Props.C05

/-- **C03 (constants)** every number the generators take from the headers is the IEEE / documented one -/
theorem C03_consts :
    (∀ k : GKind, (if k.isCtrl then ctrlType else mgmtType) = (sk k).typeSubtype.1 ∧ k.subtype = (sk k).typeSubtype.2) ∧
    tagSsid = 0 ∧ tagDs = 3 ∧ tagSuppRates = 1 ∧ tagTimeAdv = 69 ∧
    Gen.m_LIBWIFI_DEFAULT_AP_CAPABS = 1 ∧ Gen.m_LIBWIFI_DEFAULT_BEACON_INTERVAL = 100 ∧ Gen.m_LIBWIFI_DEFAULT_LISTEN_INTERVAL = 1 ∧
    Gen.s_LIBWIFI_DEFAULT_SUPP_RATES = [0x82, 0x84, 0x8b, 0x96, 0x24, 0x30, 0x48, 0x6c] ∧
    enumVal Gen.enum_libwifi_status_codes n!"STATUS_SUCCESS" = 0 := by
  refine ⟨fun k => by cases k <;> decide +kernel, ?_⟩
  decide +kernel

/-- **C03 (layout)** the packed wire structs have their 802.11 sizes, and the frame-control
bit-fields sit where the standard puts them (version bits 0-1, type 2-3, subtype 4-7 of octet 0) -/
theorem C03_layout :
    Gen.sz_libwifi_mgmt_unordered_frame_header = 24 ∧ Gen.sz_libwifi_mgmt_ordered_frame_header = 28 ∧
    Gen.sz_libwifi_ctrl_frame_header = 4 ∧ Gen.sz_libwifi_data_frame_header = 24 ∧ Gen.sz_libwifi_data_qos_frame_header = 26 ∧
    Gen.sz_libwifi_atim = 24 ∧ Gen.sz_libwifi_rts = 16 ∧ Gen.sz_libwifi_cts = 10 ∧
    Gen.sz_libwifi_beacon_fixed_parameters = 12 ∧ Gen.sz_libwifi_probe_resp_fixed_parameters = 12 ∧
    Gen.sz_libwifi_assoc_req_fixed_parameters = 4 ∧ Gen.sz_libwifi_assoc_resp_fixed_parameters = 6 ∧
    Gen.sz_libwifi_reassoc_req_fixed_parameters = 10 ∧ Gen.sz_libwifi_reassoc_resp_fixed_parameters = 6 ∧
    Gen.sz_libwifi_auth_fixed_parameters = 6 ∧ Gen.sz_libwifi_deauth_fixed_parameters = 2 ∧
    Gen.sz_libwifi_disassoc_fixed_parameters = 2 ∧ Gen.sz_libwifi_timing_advert_fixed_params = 21 ∧
    Gen.off_libwifi_mgmt_unordered_frame_header_duration = 2 ∧ Gen.off_libwifi_mgmt_unordered_frame_header_addr1 = 4 ∧
    Gen.off_libwifi_mgmt_unordered_frame_header_addr2 = 10 ∧ Gen.off_libwifi_mgmt_unordered_frame_header_addr3 = 16 ∧
    Gen.off_libwifi_mgmt_unordered_frame_header_seq_control = 22 ∧
    (Gen.layouts.find? (fun l => l.name == "libwifi_frame_ctrl")).map (fun l => l.bitfields.map (·.mask))
      = some [[3, 0], [12, 0], [240, 0]] := by decide +kernel

/-- `libwifi_get_epoch` returns whole microseconds: its regenerated return expression, `sec * 1000000 + nsec / 1000`
up to the order of the operands of `+` and `*`, is the nanosecond count divided by 1000 -/
theorem epoch_us (t : Timespec) : epoch t = (t.sec * 1000000000 + t.nsec) / 1000 := by
  rw [C20.epoch_eq, show C20.epochShape = (1000000, 1000) from by decide]
  exact C20.unit_core t.sec t.nsec 1000000 1000 (by decide)

theorem le2 (v : Nat) : leBytes 2 v = [UInt8.ofNat (v % 256), UInt8.ofNat (v / 256 % 256)] := by
  simp [leBytes]

/-- the Spec's timestamp of the generator arguments is the model's `epoch` of the clock reading, as
a 64-bit value -/
theorem timestamp_sa (a : GArgs) : Spec.timestamp (sa a) = epoch a.clk % 2 ^ 64 := by
  rw [epoch_us]; rfl

theorem fixed_eq (k : GKind) (a : GArgs) : fixedOf k a = Spec.fixed (sk k) (sa a) := by
  obtain ⟨_, _, _, _, _, hcap, hbi, hli, _, hss⟩ := C03_consts
  unfold fixedOf
  rw [hcap, hbi, hli, hss, ← timestamp_sa]
  cases k
  case action | actionNoAck => exact leBytes_one a.cat
  case timingAd =>
    dsimp only
    rw [leBytes_one a.mtx, leBytes_one a.txu, leBytes_one a.nf, List.append_assoc, List.append_assoc]
    rfl
  all_goals rfl

theorem tags_of_parse {t : Tags} (h : C05.Inv t) {es : List Elem} (hp : parse t.params = es) :
    t.params = encode es ∧ t.length = (encode es).length := by
  obtain ⟨es', -, rfl, hpe⟩ := inv_eq_encode t h
  cases hpe.symm.trans hp
  exact ⟨rfl, rfl⟩

theorem parse_nil : parse ([] : Bytes) = [] := rfl

/-- whatever the arguments, the tag list `libwifi_create_<kind>` builds satisfies the invariant; with an
SSID within the one-octet limit the create function returns 0 and the list holds exactly the documented
elements -/
theorem initialTags_any (k : GKind) (a : GArgs) :
    ∃ r t, initialTags k a = .ok (r, t) ∧ C05.Inv t ∧
      ((cstr a.ssid).length ≤ 255 → r = 0 ∧ parse t.params = Spec.initialElems (sk k) (sa a)) := by
  obtain ⟨-, hS, hD, hR, hT, -, -, -, hrates, -⟩ := C03_consts
  have hE := inv_empty
  have hch : ([UInt8.ofNat a.ch] : Bytes).length ≤ 255 := (by decide : 1 ≤ 255)
  -- the tag calls several kinds share (a first setter is an add, `setTag_empty`): SSID, …
  obtain ⟨u1, g1, j1, -, q1⟩ := add_general Tags.empty hE tagSsid (cstr a.ssid)
  -- … then DS by an add or through the setter, …
  obtain ⟨u2, g2, j2, -, q2⟩ := add_general u1 j1 tagDs [UInt8.ofNat a.ch]
  obtain ⟨r2, t2, h2, i2, s2⟩ := set_general u1 j1 tagDs [UInt8.ofNat a.ch]
  -- … and DS alone
  obtain ⟨t3, h3, i3, -, p3⟩ := add_general Tags.empty hE tagDs [UInt8.ofNat a.ch]
  cases k
  case beacon | probeResp =>
    refine ⟨r2, t2, ?_, i2, fun hs => ?_⟩
    · simp only [initialTags, setTag_empty, g1, Outcome.bind_ok, ne_eq, not_true_eq_false, if_false]
      exact h2
    · have p1 := q1 hs
      rw [hS] at p1
      obtain ⟨hr2, p2⟩ := s2 (by rw [p1]; rfl) hch
      exact ⟨hr2, by rw [p2, p1, hD]; rfl⟩
  case probeReq | assocReq | reassocReq =>
    refine ⟨0, u2, by simp only [initialTags, g1, Outcome.bind_ok, g2], j2, fun hs => ⟨rfl, ?_⟩⟩
    rw [q2 hch, q1 hs, hS, hD]
    rfl
  case assocResp =>
    obtain ⟨t4, h4, i4, -, p4⟩ := add_general t3 i3 tagSuppRates Gen.s_LIBWIFI_DEFAULT_SUPP_RATES
    refine ⟨0, t4, by simp only [initialTags, setTag_empty, h3, Outcome.bind_ok, h4], i4, fun _ => ⟨rfl, ?_⟩⟩
    rw [p4 (by rw [hrates]; decide), p3 hch, hD, hR, hrates]
    rfl
  case reassocResp =>
    refine ⟨0, t3, by simp only [initialTags, setTag_empty, h3, Outcome.bind_ok], i3, fun _ => ⟨rfl, ?_⟩⟩
    rw [p3 hch, hD]
    rfl
  case timingAd =>
    obtain ⟨t5, h5, i5, -, p5⟩ := add_general Tags.empty hE tagTimeAdv (timingElement a)
    refine ⟨0, t5, by simp only [initialTags, h5, Outcome.bind_ok], i5, fun _ => ⟨rfl, ?_⟩⟩
    rw [p5 (Nat.le_trans (timingElement_length a) (by decide)), hT]
    rfl
  all_goals exact ⟨0, Tags.empty, rfl, hE, fun _ => ⟨rfl, rfl⟩⟩

/-- **C03 (initial tags)** with an SSID within the one-octet limit every `libwifi_create_<kind>` leaves exactly the
documented initial elements -/
theorem initialTags_spec (k : GKind) (a : GArgs) (hs : (cstr a.ssid).length ≤ 255) :
    ∃ t, initialTags k a = .ok (0, t) ∧ Inv t ∧ parse t.params = Spec.initialElems (sk k) (sa a) := by
  obtain ⟨r, t, h, i, s⟩ := initialTags_any k a
  obtain ⟨rfl, p⟩ := s hs
  exact ⟨t, h, i, p⟩

theorem fc_eq (k : GKind) : fcBytes (if k.isCtrl then ctrlType else mgmtType) k.subtype = Spec.frameControl (sk k) := by
  obtain ⟨hty, hst⟩ := C03_consts.1 k
  rw [hty, hst]
  cases k <;> rfl

theorem rdSlice_all (what : String) (bs : Bytes) : rdSlice what bs 0 bs.length = .ok bs :=
  rdSlice_rest (Nat.zero_add _)

/-- the object invariant the generators maintain, relative to a reference state: `es` are the elements the tag bytes
parse to, `details` the action details stored so far -/
structure WF (o : GObj) (es : List Elem) (details : Bytes) : Prop where
  fc : o.fc = Spec.frameControl (sk o.kind)
  inv : Inv o.tags
  parse : parse o.tags.params = es
  det : o.detail = details ∧ o.detailLen = details.length ∧ details.length ≤ 255
  noTags : o.hasTags = false → es = []
  noDet : (o.kind ≠ .action ∧ o.kind ≠ .actionNoAck) → details = []

/-- everything the property says about an object: it serialises to the Spec frame for the
elements / details added so far, and reports that encoding's length -/
structure Good (k : GKind) (a : GArgs) (o : GObj) (es : List Elem) (details : Bytes) : Prop where
  kind : o.kind = k
  wf : WF o es details
  enc : o.encoding = .ok (Spec.frame (sk k) (sa a) es details)
  len : o.length = (Spec.frame (sk k) (sa a) es details).length

section
open LWV.Props.C03Full LWV.Props.C07Any

/-- what `libwifi_dump_<kind>` copies behind the static part is the payload of the Spec frame -/
theorem WF.block_eq {o : GObj} {es : List Elem} {det : Bytes} (w : WF o es det) :
    block o = payload o.kind es det ∧ count o = (payload o.kind es det).length := by
  obtain ⟨hpar, hl⟩ := tags_of_parse w.inv w.parse
  obtain ⟨hd1, hd2, -⟩ := w.det
  unfold block count payload
  rw [apply_ite List.length, apply_ite List.length, hasTags_eq, hd1, hd2, hpar, hl]
  exact ⟨rfl, rfl⟩

theorem WF.encoding {o : GObj} {es : List Elem} {det : Bytes} (w : WF o es det) :
    o.encoding = .ok (static o ++ payload o.kind es det) ∧
    ((sizeofPart o).length = sizeofLen o.kind ↔ o.length = (static o ++ payload o.kind es det).length) := by
  obtain ⟨hb, hc⟩ := w.block_eq
  refine ⟨(encoding_ok_iff o).mpr ?_, by rw [List.length_append, ← hc]; exact sized_iff o⟩
  rw [hc, hb, List.take_length]
  exact ⟨Nat.le_refl _, rfl⟩

/-- `Good` is the relation `WF` to the reference state together with two facts about the part of the
object that no edit touches: it is the Spec's header and fixed fields, and it has its `sizeof`. -/
theorem good_iff {k : GKind} {a : GArgs} {o : GObj} {es : List Elem} {det : Bytes} :
    Good k a o es det ↔ o.kind = k ∧ WF o es det ∧
      static o = hdrOf k a ++ Spec.fixed (sk k) (sa a) ∧ (sizeofPart o).length = sizeofLen o.kind := by
  constructor
  · rintro ⟨rfl, w, he, hl⟩
    obtain ⟨e1, l1⟩ := w.encoding
    rw [frame_eq] at he hl
    have hs := List.append_cancel_right (Outcome.ok.inj (e1.symm.trans he))
    rw [← hs] at hl
    exact ⟨rfl, w, hs, l1.mpr hl⟩
  · rintro ⟨rfl, w, hs, hz⟩
    obtain ⟨e1, l1⟩ := w.encoding
    refine ⟨rfl, w, ?_, ?_⟩
    · rw [frame_eq, ← hs, e1]
    · rw [frame_eq, ← hs]
      exact l1.mp hz

/-- an object that differs from a `Good` one only in tags and details is `Good` for whatever reference
state it is related to -/
theorem Good.transfer {k : GKind} {a : GArgs} {o o' : GObj} {es es' : List Elem} {det det' : Bytes}
    (g : Good k a o es det) (hk : o'.kind = o.kind) (hs : static o' = static o) (hz : sizeofPart o' = sizeofPart o)
    (w' : WF o' es' det') : Good k a o' es' det' := by
  obtain ⟨h1, -, h3, h4⟩ := good_iff.mp g
  exact good_iff.mpr ⟨hk.trans h1, w', hs.trans h3, by rw [hz, hk]; exact h4⟩

/-- where the fixed part is not serialised it is empty, so the static part is header and fixed part -/
theorem static_of_fixed {o : GObj} (h : isAct o.kind = false → o.hasTags = false → o.fixed = []) :
    static o = o.header ++ o.fixed := by
  unfold static
  split
  · rfl
  · rename_i hn
    rw [h (Bool.eq_false_iff.mpr fun h => hn (Or.inl h)) (Bool.eq_false_iff.mpr fun h => hn (Or.inr h)), List.append_nil]

/-- whatever the arguments, `libwifi_create_<kind>` leaves an object that is `Good` for the elements its
tag list holds; with an SSID within the one-octet limit it returns 0 and these are the documented ones -/
theorem good_create_any (k : GKind) (a : GArgs) :
    ∃ r o, create k a = .ok (r, o) ∧ Good k a o (parse o.tags.params) [] ∧
      ((cstr a.ssid).length ≤ 255 → r = 0 ∧ parse o.tags.params = Spec.initialElems (sk k) (sa a)) := by
  by_cases hc : k.isCtrl = false
  · obtain ⟨r, t, ht, hinv, hspec⟩ := initialTags_any k a
    have hfc : fcBytes mgmtType k.subtype = Spec.frameControl (sk k) := by
      have := fc_eq k
      rwa [hc, if_neg Bool.false_ne_true] at this
    rw [create_mgmt k a hc, ht]
    refine ⟨r, _, rfl, good_iff.mpr
      ⟨rfl, ⟨hfc, hinv, rfl, ⟨rfl, rfl, Nat.zero_le _⟩, fun h => ?_, fun _ => rfl⟩, ?_, ?_⟩, hspec⟩
    · rw [initialTags_noTags k a ((hasTags_eq _).symm.trans h)] at ht
      cases ht
      rfl
    · rw [static_of_fixed fun ha h => fixedOf_plain k a ha ((hasTags_eq _).symm.trans h),
        GObj.header_mgmt _ hc, hdrOf_mgmt k a hc, ← hfc, ← fixed_eq]
      dsimp only
      rfl
    · exact sized_of_fields rfl (mac_length _)
        (by rw [if_neg (fun h => by rw [show k = .cts from h] at hc; cases hc)]; exact mac_length _)
        (fun _ => mac_length _) (fixedOf_length_act k a)
  · rcases GKind.isCtrl_cases hc with rfl | rfl
    · rw [create_rts]
      refine ⟨0, _, rfl, good_iff.mpr
        ⟨rfl, ⟨fc_eq .rts, inv_empty, rfl, ⟨rfl, rfl, Nat.zero_le _⟩, fun _ => rfl, fun _ => rfl⟩, ?_, ?_⟩, fun _ => ⟨rfl, rfl⟩⟩
      · rw [static_of_fixed fun _ _ => rfl, GObj.header_ctrl _ rfl]
        rfl
      · exact sized_of_fields rfl (mac_length _) (mac_length _) (fun h => by cases h) (fun h => by cases h)
    · rw [create_cts]
      refine ⟨0, _, rfl, good_iff.mpr
        ⟨rfl, ⟨fc_eq .cts, inv_empty, rfl, ⟨rfl, rfl, Nat.zero_le _⟩, fun _ => rfl, fun _ => rfl⟩, ?_, ?_⟩, fun _ => ⟨rfl, rfl⟩⟩
      · rw [static_of_fixed fun _ _ => rfl, GObj.header_ctrl _ rfl]
        exact List.append_nil _
      · exact sized_of_fields rfl (mac_length _) rfl (fun h => by cases h) (fun h => by cases h)

theorem good_create (k : GKind) (a : GArgs) (hs : (cstr a.ssid).length ≤ 255) :
    ∃ o, create k a = .ok (0, o) ∧ Good k a o (Spec.initialElems (sk k) (sa a)) [] := by
  obtain ⟨r, o, h, g, s⟩ := good_create_any k a
  obtain ⟨rfl, p⟩ := s hs
  rw [p] at g
  exact ⟨o, h, g⟩

end

/-- **C03 (create)** for every generator and all arguments (SSID up to the one-octet limit) the
created object succeeds and serialises to the Spec frame; the reported length is the length of
that encoding. -/
theorem C03_create (k : GKind) (a : GArgs) (hs : (cstr a.ssid).length ≤ 255) :
    ∃ o, create k a = .ok (0, o) ∧ o.kind = k ∧
      o.encoding = .ok (Spec.frame (sk k) (sa a) (Spec.initialElems (sk k) (sa a)) []) ∧
      o.length = (Spec.frame (sk k) (sa a) (Spec.initialElems (sk k) (sa a)) []).length ∧
      WF o (Spec.initialElems (sk k) (sa a)) [] := by
  obtain ⟨o, h, g⟩ := good_create k a hs
  exact ⟨o, h, g.kind, g.enc, g.len, g.wf⟩

/-- A tag operation that leaves a well-formed list, as an edit of an object with tags that is `Good` for `es`: the
object afterwards is `Good` for that list's elements, whatever they are — header and fixed fields are untouched
and the serialisation copies exactly the recorded tag bytes. -/
theorem good_tag_edit {k : GKind} {a : GArgs} {o : GObj} {es es' : List Elem} {det : Bytes} {op : TagOp} {r : Int}
    {t' : Tags} (g : Good k a o es det) (ht : o.hasTags = true) (h : stepTag o.tags op = .ok (r, t'))
    (hinv : C05.Inv t') (hp : parse t'.params = es') :
    o.edit (.tag op) = .ok (r, { o with tags := t' }) ∧ ({ o with tags := t' } : GObj).hasTags = true ∧
      Good k a { o with tags := t' } es' det :=
  ⟨by simp only [GObj.edit, h], ht, g.transfer rfl rfl rfl ⟨g.wf.fc, hinv, hp, g.wf.det,
    fun h => absurd (h.symm.trans ht) Bool.false_ne_true, g.wf.noDet⟩⟩

/-- **C03 (append)** adding a storable tag appends exactly its encoding to the serialised frame -/
theorem good_add_tag (k : GKind) (a : GArgs) (o : GObj) (es : List Elem) (g : Good k a o es [])
    (ht : o.hasTags = true) (n : Nat) (d : Bytes) (hd : d.length ≤ 255) :
    ∃ o', o.edit (.tag (.add n d)) = .ok (0, o') ∧ o'.hasTags = true ∧ Good k a o' (es ++ [⟨UInt8.ofNat n, d⟩]) [] := by
  obtain ⟨t', h1, hinv', -, hparse'⟩ := C05_add o.tags g.wf.inv n d hd
  exact ⟨_, good_tag_edit g ht (op := .add n d) (by simp only [stepTag, h1, Outcome.bind_ok]) hinv'
    (by rw [hparse', g.wf.parse])⟩

/-- **C03 (history)** any sequence of appended storable tags: the frame carries the initial
elements followed by the added ones, in order, and the reported length is its length -/
theorem C03_history (k : GKind) (a : GArgs) (hs : (cstr a.ssid).length ≤ 255)
    (htag : ∀ o : GObj, o.kind = k → o.hasTags = true)
    (adds : List (Nat × Bytes)) (hadds : ∀ p ∈ adds, p.2.length ≤ 255) :
    ∃ o0 o, create k a = .ok (0, o0) ∧
      adds.foldl (fun (st : Outcome GObj) p => st >>= fun o => (o.edit (.tag (.add p.1 p.2))) >>= fun r => .ok r.2) (.ok o0) = .ok o ∧
      Good k a o (Spec.initialElems (sk k) (sa a) ++ adds.map (fun p => ⟨UInt8.ofNat p.1, p.2⟩)) [] := by
  obtain ⟨o0, hc, g0⟩ := good_create k a hs
  have ht := htag o0 g0.kind
  refine ⟨o0, Exists.imp (fun _ h => ⟨hc, h⟩) ?_⟩
  clear hc
  -- from any object with tags, `Good` for any elements `es`
  generalize Spec.initialElems (sk k) (sa a) = es at g0 ⊢
  induction adds generalizing o0 es with
  | nil => exact ⟨o0, rfl, by simpa using g0⟩
  | cons p rest ih =>
    obtain ⟨o', h1, ht', g'⟩ := good_add_tag k a o0 es g0 ht p.1 p.2 (hadds p List.mem_cons_self)
    obtain ⟨o, h2, g2⟩ := ih (fun q hq => hadds q (List.mem_cons_of_mem _ hq)) o' ht' _ g'
    refine ⟨o, ?_, by simpa [List.append_assoc] using g2⟩
    simp only [List.foldl_cons, Outcome.bind_ok, h1]
    exact h2

theorem good_detail {k : GKind} (hk : k = .action ∨ k = .actionNoAck) {a : GArgs} {o : GObj} {es : List Elem} {det : Bytes}
    (g : Good k a o es det) (d : Bytes) (hd : det.length + d.length ≤ 255) :
    ∃ o', o.edit (.detail d) = .ok (((det ++ d).length : Nat), o') ∧ Good k a o' es (det ++ d) := by
  obtain ⟨hd1, hd2, -⟩ := g.wf.det
  have hno : ¬ (o.kind ≠ .action ∧ o.kind ≠ .actionNoAck) :=
    fun h => hk.elim (fun hk => h.1 (g.kind.trans hk)) (fun hk => h.2 (g.kind.trans hk))
  by_cases hz : d.length = 0
  · have hnil : d = [] := List.eq_nil_of_length_eq_zero hz
    subst hnil
    refine ⟨o, ?_, by rw [List.append_nil]; exact g⟩
    rw [List.append_nil, ← hd2]
    rfl
  · refine ⟨{ o with detail := o.detail.take o.detailLen ++ d, detailLen := o.detailLen + d.length }, ?_, ?_⟩
    · have hfit : ¬ (d.length > 255 - o.detailLen) := Nat.not_lt.mpr (Nat.le_sub_of_add_le' (hd2 ▸ hd))
      show (if d.length = 0 then _ else if d.length > 255 - o.detailLen then _ else _) = _
      rw [if_neg hz, if_neg hfit, hd2, List.length_append]
    · refine g.transfer rfl rfl rfl ⟨g.wf.fc, g.wf.inv, g.wf.parse, ⟨?_, ?_, ?_⟩, g.wf.noTags, fun h => absurd h hno⟩
      · rw [hd1, hd2, List.take_length]
      · rw [hd2, List.length_append]
      · rw [List.length_append]
        exact hd

/-- **C03 (details)** action frames: appended details follow the category octet in order, up to
the one-octet length limit -/
theorem good_add_detail (k : GKind) (hk : k = .action ∨ k = .actionNoAck) (a : GArgs) (o : GObj) (det : Bytes)
    (g : Good k a o [] det) (d : Bytes) (hd : det.length + d.length ≤ 255) :
    ∃ o', o.edit (.detail d) = .ok (((det ++ d).length : Nat), o') ∧ Good k a o' [] (det ++ d) :=
  good_detail hk g d hd

/-! A beacon for SSID "ABC", channel 6, created at 5 s + 1000 ns: the hypothesis of `C03_create` holds and the
encoding is the expected octet string (timestamp 5000001 µs, interval 100, capabilities 1, SSID and DS elements). -/
example : (cstr [0x41, 0x42, 0x43]).length ≤ 255 := by decide
example : ∃ o, create .beacon { ssid := [0x41, 0x42, 0x43], ch := 6, clk := ⟨5, 1000⟩ } = .ok (0, o) ∧
    o.encoding = .ok ([0x80, 0, 0, 0] ++ List.replicate 18 0 ++ [0, 0, 0x41, 0x4b, 0x4c, 0, 0, 0, 0, 0, 0x64, 0, 1, 0, 0, 3, 0x41, 0x42, 0x43, 3, 1, 6]) := by
  obtain ⟨o, h1, _, h3, _⟩ := C03_create .beacon { ssid := [0x41, 0x42, 0x43], ch := 6, clk := ⟨5, 1000⟩ } (by decide)
  exact ⟨o, h1, by rw [h3]; decide +kernel⟩

end LWV.Props.C03
