import LWV.Lemmas.Encode
import LWV.Lemmas.Outcome
import LWV.Props.C06
/-
C05 — tagged-parameter lists stay well-formed under any edit history.
Refinement shape: the reference is the plain element list `Spec.parse params`; every operation of
the model commutes with it.  First what holds of any list, well formed or not (the equations of the
operations; searching and counting never fault); then, under `Inv`, one general lemma for each operation,
the property's clauses being its instances.  `libwifi_check_tag` (`checkTag`) counts the occurrences of a
tag number; the docstrings say "count".
-/
namespace LWV.Props.C05
open LWV LWV.Spec LWV.Model LWV.Props.C06

/-- recorded length = byte count, and the bytes are a well-formed element sequence -/
def Inv (t : Tags) : Prop := t.length = t.params.length ∧ wf t.params = true

theorem inv_empty : Inv Tags.empty := ⟨rfl, by decide⟩

theorem take_self (t : Tags) (h : Inv t) : t.params.take t.length = t.params := by
  rw [h.1]; exact List.take_length

theorem inv_eq_encode (t : Tags) (h : Inv t) :
    ∃ es, bodiesOk es ∧ t = ⟨(encode es).length, encode es⟩ ∧ parse (encode es) = es := by
  obtain ⟨len, params⟩ := t
  obtain ⟨rfl, hwf⟩ : len = params.length ∧ wf params = true := h
  have he : encode (parse params) = params := (wf_iff params).mp hwf
  exact ⟨parse params, parseF_bodiesOk _ _, by rw [he], congrArg parse he⟩

/-- `libwifi_quick_add_tag`: the length octet is the data length truncated to eight bits, and that many octets
of the data are stored -/
theorem quickAddTag_eq (t : Tags) (n : Nat) (d : Bytes) :
    quickAddTag t n d = .ok ⟨t.length + 2 + d.length % 256,
      t.params ++ UInt8.ofNat n :: UInt8.ofNat d.length :: d.take (d.length % 256)⟩ := by
  simp only [quickAddTag, addTag, createTag, UInt8.toNat_ofNat', Nat.reducePow]
  rw [rdSlice_ok (Nat.le_trans (Nat.le_of_eq (Nat.zero_add _)) (Nat.mod_le _ _))]
  rfl

theorem addTag_length_ne_zero {t : Tags} {tag : Tag} {t' : Tags} (h : addTag t tag = .ok t') : t'.length ≠ 0 := by
  obtain ⟨b, -, hb⟩ := Outcome.bind_eq_ok h
  cases hb
  show t.length + 2 + tag.len.toNat ≠ 0
  omega

/-- nothing is found in an empty list: the iterator refuses it -/
theorem findTag_nonempty (t : Tags) (num : Nat) (e : Spec.ElemAt) (h : findTag t num = .ok (some e)) : t.length ≠ 0 := by
  intro h0
  rw [findTag, h0, List.take_zero] at h
  cases h

/-- searching and counting never fault, because the iterator does not (C06) -/
theorem findTag_no_fault (t : Tags) (num : Nat) (f : Fault) : findTag t num ≠ .fault f := by
  unfold findTag
  rw [C06_exact]
  split <;> nofun

theorem checkTag_ok (t : Tags) (num : Nat) : ∃ c, checkTag t num = .ok c := by
  unfold checkTag
  rw [C06_exact]
  by_cases h0 : t.length = 0
  · rw [if_pos h0]
    exact ⟨0, rfl⟩
  · rw [if_neg h0]
    by_cases hf : firstFits (t.params.take t.length)
    · rw [if_pos hf]
      exact ⟨_, rfl⟩
    · rw [if_neg hf]
      exact ⟨_, rfl⟩

/-- the setter in terms of its parts: was the tag there (`checkTag`), the list with the new tag (`quickAddTag`) -/
theorem setTag_eq {t : Tags} {num : Nat} {data : Bytes} {c : Int} {t1 : Tags} (hc : checkTag t num = .ok c)
    (hq : quickAddTag t num data = .ok t1) :
    setTag t num data = if t.length ≠ 0 ∧ c > 0 then removeTag t1 num else .ok (0, t1) := by
  unfold setTag
  by_cases h0 : t.length = 0
  · rw [if_neg (fun h => h h0), if_neg (fun h => h.1 h0), hq]
    rfl
  · rw [if_pos h0, hc, hq]
    by_cases hc0 : c > 0
    · rw [if_pos ⟨h0, hc0⟩]
      exact if_pos (decide_eq_true hc0)
    · rw [if_neg (fun h => hc0 h.2)]
      exact if_neg (by rw [decide_eq_false hc0]; exact Bool.false_ne_true)

/-- on the empty list the setter is an add; the create functions start their chains this way -/
theorem setTag_empty (n : Nat) (d : Bytes) :
    setTag Tags.empty n d = quickAddTag Tags.empty n d >>= fun t => .ok (0, t) := by
  unfold setTag
  rw [if_neg (fun h => h rfl)]
  rfl

/-- adding always succeeds, keeps the invariant and appends exactly one element, whose body is the data
truncated to the one-octet length; a storable element is appended verbatim -/
theorem add_general (t : Tags) (h : Inv t) (n : Nat) (d : Bytes) :
    ∃ t', quickAddTag t n d = .ok t' ∧ Inv t' ∧
      t'.params = t.params ++ encodeElem ⟨UInt8.ofNat n, d.take (d.length % 256)⟩ ∧
      (d.length ≤ 255 → parse t'.params = parse t.params ++ [⟨UInt8.ofNat n, d⟩]) := by
  obtain ⟨es, hes, rfl, hpe⟩ := inv_eq_encode t h
  have hlt : d.length % 256 < 256 := Nat.mod_lt _ (by decide)
  have htk : (d.take (d.length % 256)).length = d.length % 256 := by
    rw [List.length_take]
    exact Nat.min_eq_left (Nat.mod_le _ _)
  have henc : UInt8.ofNat n :: UInt8.ofNat d.length :: d.take (d.length % 256)
      = encodeElem ⟨UInt8.ofNat n, d.take (d.length % 256)⟩ := by
    rw [encodeElem, htk, UInt8.ofNat_mod_size]
  have hok : bodiesOk (es ++ [⟨UInt8.ofNat n, d.take (d.length % 256)⟩]) :=
    bodiesOk_snoc hes (by rw [htk]; exact Nat.le_of_lt_succ hlt)
  rw [quickAddTag_eq, henc]
  refine ⟨_, rfl, ⟨?_, ?_⟩, rfl, fun hd => ?_⟩
  · rw [List.length_append, encodeElem_length, htk, Nat.add_assoc]
  · rw [encode_snoc]
    exact wf_encode _ hok
  · rw [Nat.mod_eq_of_lt (Nat.lt_succ_of_le hd), List.take_length] at hok ⊢
    rw [encode_snoc, parse_encode _ hok, hpe]

/-- **C05 (add)** a storable element (number and length fit one octet) is appended verbatim:
the reference list grows by exactly that element -/
theorem C05_add (t : Tags) (h : Inv t) (n : Nat) (d : Bytes) (hd : d.length ≤ 255) :
    ∃ t', quickAddTag t n d = .ok t' ∧ Inv t' ∧
      t'.params = t.params ++ encodeElem ⟨UInt8.ofNat n, d⟩ ∧
      parse t'.params = parse t.params ++ [⟨UInt8.ofNat n, d⟩] := by
  obtain ⟨t', h1, h2, h3, h4⟩ := add_general t h n d
  rw [Nat.mod_eq_of_lt (Nat.lt_succ_of_le hd), List.take_length] at h3
  exact ⟨t', h1, h2, h3, h4 hd⟩

theorem reported_encode (es : List Elem) (hes : bodiesOk es) :
    reported (encode es) = match es with
      | [] => .err (-EINVAL)
      | _ :: _ => .ok (visible (offsets 0 es)) := by
  rw [C06_exact, parseAt_encode _ hes]
  cases es with
  | nil => rfl
  | cons e u => rw [if_pos ((firstFits_encode hes).mpr (List.cons_ne_nil _ _))]

/-- the iterator's test for a tag number, as a test on the number alone -/
theorem tagNumTest_eq (n : Nat) :
    (fun a : ElemAt => a.num.toNat == n % 256 && decide (n < 256)) = fun a => a.num.toNat == n := by
  funext a
  by_cases h : n < 256
  · rw [Nat.mod_eq_of_lt h, decide_eq_true h, Bool.and_true]
  · rw [decide_eq_false h, Bool.and_false]
    exact (beq_eq_false_iff_ne.mpr fun he => h (Nat.lt_of_le_of_lt (Nat.le_of_eq he.symm) a.num.toNat_lt)).symm

theorem encode_cons_length_ne_zero (e : Elem) (u : List Elem) : (encode (e :: u)).length ≠ 0 := by
  rw [encode_cons, List.length_append, encodeElem_length]
  omega

/-- removing never fails and keeps the invariant; it deletes exactly the first element with that number
when there is no inner empty element or, more generally, when the iterator sees that element; on a
non-empty list it reports success -/
theorem remove_general (t : Tags) (h : Inv t) (n : Nat) :
    ∃ r t', removeTag t n = .ok (r, t') ∧ Inv t' ∧
      (noInnerEmpty (parse t.params) = true →
        parse t'.params = (parse t.params).eraseP (fun e => e.num.toNat == n)) ∧
      ((∃ a, (visible (offsets 0 (parse t.params))).find? (fun a => a.num.toNat == n) = some a) →
        parse t'.params = (parse t.params).eraseP (fun e => e.num.toNat == n)) ∧
      (parse t.params ≠ [] → r = 0) := by
  obtain ⟨es, hes, rfl, hpe⟩ := inv_eq_encode t h
  unfold removeTag findTag
  rw [List.take_length, reported_encode es hes, hpe]
  cases es with
  | nil =>
    exact ⟨-EINVAL, _, rfl, h, fun _ => rfl, fun _ => rfl, fun h0 => absurd rfl h0⟩
  | cons e u =>
    rw [Outcome.bind_ok, tagNumTest_eq]
    cases hf : (visible (offsets 0 (e :: u))).find? (fun a => a.num.toNat == n) with
    | none =>
      refine ⟨0, _, rfl, h, fun hne => ?_, fun hex => ?_, fun _ => rfl⟩
      · rw [visible_offsets 0 _ hne] at hf
        exact hpe.trans (eraseP_of_find?_offsets_none (fun x : UInt8 => x.toNat == n) 0 _ hf).symm
      · obtain ⟨a, ha⟩ := hex
        cases ha
    | some a =>
      -- the iterator shows a prefix of all elements, so `a` is the first match among all of them too
      obtain ⟨hbytes, hbound⟩ := splice_erase (fun x : UInt8 => x.toNat == n) (e :: u) [] a
        ((visible_prefix (offsets 0 (e :: u))).find?_eq_some hf)
      simp only [List.nil_append] at hbytes hbound
      have hok : bodiesOk ((e :: u).eraseP (fun e => e.num.toNat == n)) :=
        fun x hx => hes x (List.mem_of_mem_eraseP hx)
      have hres : parse ((encode (e :: u)).take a.off ++ (encode (e :: u)).drop (a.off + 2 + a.len))
          = (e :: u).eraseP (fun e => e.num.toNat == n) := by rw [hbytes, parse_encode _ hok]
      refine ⟨0, _, rfl, ⟨?_, ?_⟩, fun _ => hres, fun _ => hres, fun _ => rfl⟩
      · exact (length_cut hbound).symm
      · rw [hbytes]
        exact wf_encode _ hok

/-- **C05 (remove)** with no inner empty element, removing deletes exactly the first element
with that number and is a no-op when it is absent; the invariant holds regardless -/
theorem C05_remove (t : Tags) (h : Inv t) (hne : noInnerEmpty (parse t.params) = true) (n : Nat) :
    ∃ r t', removeTag t n = .ok (r, t') ∧ Inv t' ∧
      parse t'.params = (parse t.params).eraseP (fun e => e.num.toNat == n) := by
  obtain ⟨r, t', h1, h2, h3, -, -⟩ := remove_general t h n
  exact ⟨r, t', h1, h2, h3 hne⟩

theorem C05_remove_wf (t : Tags) (h : Inv t) (n : Nat) :
    ∃ r t', removeTag t n = .ok (r, t') ∧ Inv t' := by
  obtain ⟨r, t', h1, h2, -⟩ := remove_general t h n
  exact ⟨r, t', h1, h2⟩

/-- counting never fails; with no inner empty element it agrees with the reference list -/
theorem check_general (t : Tags) (h : Inv t) (n : Nat) :
    ∃ c, checkTag t n = .ok c ∧
      (noInnerEmpty (parse t.params) = true → c = ((parse t.params).countP (fun e => e.num.toNat == n) : Nat)) := by
  obtain ⟨es, hes, rfl, hpe⟩ := inv_eq_encode t h
  unfold checkTag
  simp only [List.take_length, hpe]
  rw [reported_encode es hes]
  cases es with
  | nil => exact ⟨0, rfl, fun _ => rfl⟩
  | cons e u =>
    rw [if_neg (encode_cons_length_ne_zero e u), tagNumTest_eq]
    refine ⟨_, rfl, fun hne => ?_⟩
    rw [visible_offsets 0 _ hne, countP_offsets (fun x : UInt8 => x.toNat == n)]

/-- **C05 (count)** occurrence counting agrees with the reference list -/
theorem C05_check (t : Tags) (h : Inv t) (hne : noInnerEmpty (parse t.params) = true) (n : Nat) :
    checkTag t n = .ok ((parse t.params).countP (fun e => e.num.toNat == n) : Nat) := by
  obtain ⟨c, hc, hcnt⟩ := check_general t h n
  rw [hc, hcnt hne]

/-- the setters never fail and keep the invariant; with no inner empty element and a storable body they
report success, replace the element and keep all others in order -/
theorem set_general (t : Tags) (h : Inv t) (n : Nat) (d : Bytes) :
    ∃ r t', setTag t n d = .ok (r, t') ∧ Inv t' ∧
      (noInnerEmpty (parse t.params) = true → d.length ≤ 255 →
        r = 0 ∧ parse t'.params = (parse t.params).eraseP (fun e => e.num.toNat == n) ++ [⟨UInt8.ofNat n, d⟩]) := by
  obtain ⟨c, hc, hcnt⟩ := check_general t h n
  obtain ⟨t1, hadd, hinv1, -, hparse1⟩ := add_general t h n d
  rw [setTag_eq hc hadd]
  by_cases hpres : t.length ≠ 0 ∧ c > 0
  · -- present: the first occurrence is removed after the add, and it is still visible to the iterator
    obtain ⟨r, t2, hrem, hinv2, -, hfound, hr0⟩ := remove_general t1 hinv1 n
    rw [if_pos hpres]
    refine ⟨r, t2, hrem, hinv2, fun hne hd => ⟨hr0 ?_, ?_⟩⟩
    · rw [hparse1 hd]
      exact List.append_ne_nil_of_right_ne_nil _ (List.cons_ne_nil _ _)
    · have hcp : 0 < (parse t.params).countP (fun e => e.num.toNat == n) :=
        Int.natCast_pos.mp (hcnt hne ▸ hpres.2)
      rw [hfound ?_, hparse1 hd]
      · obtain ⟨x, hx, hpx⟩ := List.countP_pos_iff.mp hcp
        exact List.eraseP_append_left (a := x) hpx _ hx
      · rw [hparse1 hd]
        obtain ⟨a, ha⟩ := find?_offsets_of_countP (fun x : UInt8 => x.toNat == n) 0 (parse t.params) hcp
        exact ⟨a, (offsets_prefix_visible_append 0 _ _ hne).find?_eq_some ha⟩
  · -- absent (an empty list holds nothing): nothing to remove
    rw [if_neg hpres]
    refine ⟨0, t1, rfl, hinv1, fun hne hd => ⟨rfl, ?_⟩⟩
    have hc0 : (parse t.params).countP (fun e => e.num.toNat == n) = 0 := by
      by_cases h0 : t.length = 0
      · rw [List.eq_nil_of_length_eq_zero (h.1.symm.trans h0)]
        rfl
      · exact Nat.eq_zero_of_not_pos fun hp => hpres ⟨h0, hcnt hne ▸ Int.natCast_pos.mpr hp⟩
    rw [hparse1 hd, List.eraseP_of_forall_not (List.countP_eq_zero.mp hc0)]

/-- **C05 (set)** the setters replace the element and keep all others in order -/
theorem C05_set (t : Tags) (h : Inv t) (hne : noInnerEmpty (parse t.params) = true) (n : Nat) (d : Bytes)
    (hd : d.length ≤ 255) :
    ∃ t', setTag t n d = .ok (0, t') ∧ Inv t' ∧
      parse t'.params = (parse t.params).eraseP (fun e => e.num.toNat == n) ++ [⟨UInt8.ofNat n, d⟩] := by
  obtain ⟨r, t', h1, h2, h3⟩ := set_general t h n d
  obtain ⟨rfl, h4⟩ := h3 hne hd
  exact ⟨t', h1, h2, h4⟩

/-- the setters keep the invariant on every well-formed list (no assumption on empty elements) -/
theorem set_inv (t : Tags) (h : Inv t) (n : Nat) (d : Bytes) : ∃ r t', setTag t n d = .ok (r, t') ∧ Inv t' := by
  obtain ⟨r, t', h1, h2, -⟩ := set_general t h n d
  exact ⟨r, t', h1, h2⟩

def runOps : Tags → List TagOp → Outcome Tags
  | t, [] => .ok t
  | t, op :: ops => match stepTag t op with
    | .ok (_, t') => runOps t' ops
    | .err c => .err c
    | .fault f => .fault f

theorem step_inv (t : Tags) (h : Inv t) (op : TagOp) : ∃ r t', stepTag t op = .ok (r, t') ∧ Inv t' := by
  cases op with
  | add n d =>
    obtain ⟨t', h1, h2, -⟩ := add_general t h n d
    exact ⟨0, t', by simp only [stepTag, h1, Outcome.bind_ok], h2⟩
  | remove n => exact C05_remove_wf t h n
  | setSsid d => exact set_inv t h 0 d
  | setChannel c => exact set_inv t h 3 [c]
  | check n =>
    obtain ⟨c, hc, -⟩ := check_general t h n
    exact ⟨c, t, by simp only [stepTag, hc, Outcome.bind_ok], h⟩

/-- **C05 (invariant)** after ANY sequence of add / remove / set-SSID / set-channel / count
operations, starting from the empty list, no operation faults or fails and the stored bytes are
a well-formed element sequence whose recorded length equals the byte count. -/
theorem C05_inv (ops : List TagOp) : ∃ t, runOps Tags.empty ops = .ok t ∧ Inv t := by
  suffices ∀ t, Inv t → ∃ t', runOps t ops = .ok t' ∧ Inv t' from this _ inv_empty
  induction ops with
  | nil => intro t h; exact ⟨t, rfl, h⟩
  | cons op ops ih =>
    intro t h
    obtain ⟨r, t1, h1, h2⟩ := step_inv t h op
    obtain ⟨t', h3, h4⟩ := ih t1 h2
    exact ⟨t', by simp [runOps, h1, h3], h4⟩

/-! A three-element state meets the hypotheses of remove / set / count. -/
example : Inv ⟨12, [0, 2, 65, 66, 3, 1, 7, 1, 3, 120, 121, 122]⟩ ∧
    noInnerEmpty (parse [0, 2, 65, 66, 3, 1, 7, 1, 3, 120, 121, 122]) = true := by
  refine ⟨⟨by decide +kernel, by decide +kernel⟩, by decide +kernel⟩

end LWV.Props.C05
