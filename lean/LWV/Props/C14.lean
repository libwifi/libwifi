import LWV.Props.C15
/-
C14 — every object lifecycle releases exactly what it allocated.  Here the tag lists and one parser call;
generator objects, classification and the pipelines are in Props/C14Full.lean, the two extraction routines
that allocate in Props/C14Parse.lean.
-/
namespace LWV.Props.C14
open LWV LWV.Model LWV.Heap

/-- **C14 (tag histories)** for EVERY history of add / remove / set-SSID / set-channel / count
calls and EVERY fault schedule, once the documented release has been called no block allocated by
the library remains, nothing was released twice and nothing invalid was released -/
theorem C14_histories (σ : Nat → Bool) (ops : List TagOp) :
    let r := (do let th ← runHistory σ ops {}; free th.ptr : M Unit).run {}
    r.2.live = [] ∧ r.2.bad = 0 := LWV.Props.C15.C15_releasable σ ops

/-- while a history runs, the ledger holds exactly the list's one block (none when the list is
empty) — never a second copy, never a dangling one -/
theorem C14_exact_ownership (σ : Nat → Bool) (ops : List TagOp) :
    let r := (runHistory σ ops {}).run {}
    (∀ x, x ∈ r.2.live ↔ x ∈ blocks r.1.ptr) ∧ r.2.bad = 0 ∧ (r.1.t.length = 0 → r.1.ptr = none) := by
  have l1 := runHistory_ledger σ ops {} {} [] (ledger_empty clean_init)
  exact ⟨fun x => by simpa using l1.clean.mem x, l1.clean.bad, l1.owns.1⟩

/-- **C14 (zero-initialised)** the pointers of a zero-initialised object are NULL, and `free(NULL)`, here from
the empty ledger, leaves nothing live, counts no invalid release and records no event.  The statement is
about this one call; the release routines of whole objects are `freeH_clean` and `freeFrameH_clean`. -/
theorem C14_zero_init : ((free none : M Unit).run {}).2.live = [] ∧ ((free none : M Unit).run {}).2.bad = 0 ∧
    ((free none : M Unit).run {}).2.trace = [] :=
  ⟨rfl, rfl, rfl⟩

/-- one parser call followed by the documented release of its output: at most one block, released -/
theorem C14_parse_release (σ : Nat → Bool) (k : MKind) (f : Frame) (h : H) (own : List Nat) (c : Clean h own) :
    Clean ((parseReleaseH σ k f).run h).2 own := by
  rw [parseReleaseH_eq]
  exact scratch_clean c

end LWV.Props.C14
