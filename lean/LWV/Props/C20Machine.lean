import LWV.Props.C20
/-
C20, machine arithmetic — the exact domain on which `libwifi_get_epoch` is defined.

`Props/C20.lean` evaluates the regenerated return expression in `Nat` and shows (`C20_no_overflow`)
that below `sec < 2^43` the value stays below 2^63.  Here `evalC` evaluates the same expression the way
the C does — every operand and every intermediate result is a signed 64-bit `long` (`time_t`, `tv_nsec`,
integer literals after the usual arithmetic conversions), and an operation whose mathematical result does
not fit is *undefined* (`none`), as is a division by zero.  The function turns out to be defined on exactly
the readings whose microsecond value is below 2^63, to return the model's value there, and to be monotone
on that whole domain, which is downward closed (so "defined" cannot flicker).
-/
namespace LWV.Props.C20M
open LWV LWV.Model LWV.Props.C20

/-- the range of a non-negative `long` -/
def fits (n : Nat) : Bool := decide (n < 2 ^ 63)

/-- evaluation in signed 64-bit arithmetic; `none` = the C expression is undefined (signed overflow,
a negative difference — never produced by a non-negative clock —, or division by zero) -/
def evalC (sec nsec : Nat) : EExpr → Option Nat
  | .lit n => if fits n then some n else none
  | .sec => if fits sec then some sec else none
  | .nsec => if fits nsec then some nsec else none
  | .add a b =>
    match evalC sec nsec a, evalC sec nsec b with
    | some x, some y => if fits (x + y) then some (x + y) else none
    | _, _ => none
  | .sub a b =>
    match evalC sec nsec a, evalC sec nsec b with
    | some x, some y => if y ≤ x then some (x - y) else none
    | _, _ => none
  | .mul a b =>
    match evalC sec nsec a, evalC sec nsec b with
    | some x, some y => if fits (x * y) then some (x * y) else none
    | _, _ => none
  | .div a b =>
    match evalC sec nsec a, evalC sec nsec b with
    | some x, some y => if y = 0 then none else some (x / y)
    | _, _ => none

theorem evalC_some (s n : Nat) (e : EExpr) (v : Nat) (h : evalC s n e = some v) :
    v = e.eval s n := by
  induction e generalizing v with
  | lit k | sec | nsec => exact (Option.some.inj ((Option.ite_none_right_eq_some.mp h).2)).symm
  | add a b iha ihb | sub a b iha ihb | mul a b iha ihb | div a b iha ihb =>
    -- both operands are defined, and the operation returns the mathematical result or nothing
    unfold evalC at h
    split at h
    · rename_i x y hx hy
      split at h <;> simp at h
      rw [← h, EExpr.eval, ← iha x hx, ← ihb y hy]
    · simp at h

/-- what `libwifi_get_epoch` computes on a clock reading in machine arithmetic -/
def epochC (t : Timespec) : Option Nat :=
  match Gen.epochExpr with
  | some e => evalC t.sec t.nsec e
  | none => none

/-- machine evaluation of the recognised shape (`s < 2^63`, `n < 2^63`: the fields of a
`struct timespec` are `long`s, so this is a fact about the type, not a restriction) -/
theorem evalC_of_shape {e : EExpr} {a b : Nat} (h : e.shape = some (a, b)) (hb : 0 < b)
    (ha : a < 2 ^ 63) (hbb : b < 2 ^ 63) {s n : Nat} (hs : s < 2 ^ 63) (hn : n < 2 ^ 63) :
    evalC s n e = if s * a + n / b < 2 ^ 63 then some (s * a + n / b) else none := by
  have hb0 : b ≠ 0 := Nat.ne_of_gt hb
  -- the four recognised expressions, evaluated; they differ in the order of the operands of `+` and `*`
  by_cases hm : s * a < 2 ^ 63
  · rcases shape_cases h with rfl | rfl | rfl | rfl <;>
      simp [evalC, fits, hs, hm, hn, ha, hbb, hb0, Nat.mul_comm a s, Nat.add_comm (n / b) (s * a)]
  · have hbig : ¬ (s * a + n / b < 2 ^ 63) := fun h => hm (Nat.lt_of_le_of_lt (Nat.le_add_right _ _) h)
    rcases shape_cases h with rfl | rfl | rfl | rfl <;>
      simp [evalC, fits, hs, hm, hn, ha, hbb, hb0, hbig, Nat.mul_comm a s]

/-- **exact domain**: on every clock reading (`tv_sec`, `tv_nsec` non-negative `long`s) the C
computation is defined exactly when the mathematical microsecond value is below 2^63, and then
returns that value -/
theorem C20_machine_iff (t : Timespec) (hs : t.sec < 2 ^ 63) (hn : t.nsec < 2 ^ 63) :
    epochC t = if epoch t < 2 ^ 63 then some (epoch t) else none := by
  obtain ⟨e, he, hsh⟩ := epochExpr_shape
  unfold epochC
  rw [epoch_eq, he]
  -- the divisor is not zero and both literals are `long`s: decided on the regenerated expression
  exact evalC_of_shape hsh (by decide) (by decide) (by decide) hs hn

theorem C20_machine_value (t : Timespec) (v : Nat) (h : epochC t = some v) : v = epoch t := by
  obtain ⟨e, he, -⟩ := epochExpr_shape
  unfold epochC at h
  unfold epoch
  rw [he] at h ⊢
  exact evalC_some _ _ e v h

/-- **monotone on the whole defined domain** (no `2^43` guard): two readings on which the C is
defined, the second not earlier than the first, give non-decreasing return values -/
theorem C20_machine_monotone (t₁ t₂ : Timespec) (h₁ : t₁.nsec < 10 ^ 9) (hle : t₁.le t₂)
    (v₁ v₂ : Nat) (e₁ : epochC t₁ = some v₁) (e₂ : epochC t₂ = some v₂) : v₁ ≤ v₂ := by
  rw [C20_machine_value t₁ v₁ e₁, C20_machine_value t₂ v₂ e₂]
  exact C20_monotone t₁ t₂ h₁ hle

theorem C20_machine_downward (t₁ t₂ : Timespec) (h₁ : t₁.nsec < 10 ^ 9) (hs₁ : t₁.sec < 2 ^ 63)
    (hs₂ : t₂.sec < 2 ^ 63) (hn₂ : t₂.nsec < 2 ^ 63) (hle : t₁.le t₂)
    (h₂ : (epochC t₂).isSome) : (epochC t₁).isSome := by
  rw [C20_machine_iff t₂ hs₂ hn₂] at h₂
  rw [C20_machine_iff t₁ hs₁ (Nat.lt_trans h₁ (by decide))]
  by_cases hlt : epoch t₂ < 2 ^ 63
  · rw [if_pos (Nat.lt_of_le_of_lt (C20_monotone t₁ t₂ h₁ hle) hlt)]
    rfl
  · rw [if_neg hlt] at h₂
    cases h₂

/-- the guard of `C20_no_overflow` is inside the defined domain -/
theorem C20_machine_guard (t : Timespec) (hs : t.sec < 2 ^ 43) (hn : t.nsec < 10 ^ 9) :
    epochC t = some (epoch t) := by
  rw [C20_machine_iff t (Nat.lt_trans hs (by decide)) (Nat.lt_trans hn (by decide)), if_pos (C20_no_overflow t hs hn)]

/-- the last reading on which the function is defined, and the first on which it is not
(10 January of the year 294247) -/
theorem C20_machine_last :
    epochC ⟨9223372036854, 775807999⟩ = some (2 ^ 63 - 1) := by decide +kernel
theorem C20_machine_first_undefined : epochC ⟨9223372036854, 775808000⟩ = none := by decide +kernel

/-! The hypotheses of `C20_machine_monotone` are met beyond the guard `sec < 2^43` of `C20_no_overflow`. -/
example : epochC ⟨2 ^ 43, 999999999⟩ = some 8796093022208999999 ∧
    epochC ⟨2 ^ 43 + 1, 0⟩ = some 8796093022209000000 ∧
    (⟨2 ^ 43, 999999999⟩ : Timespec).le ⟨2 ^ 43 + 1, 0⟩ := by
  refine ⟨by decide, by decide, ?_⟩
  left; decide

end LWV.Props.C20M
