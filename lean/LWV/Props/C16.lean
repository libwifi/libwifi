import LWV.Gen.Objects
import LWV.Gen.Imports
import LWV.Spec.Posix
import LWV.Model.Sched
/-
C16 — no shared mutable state: concurrent use equals sequential use.
`Gen.objectFiles` is regenerated from a -O2 -fPIC build of every .c file of the working tree
(readelf section headers and symbol tables).
-/
namespace LWV.Props.C16
open LWV LWV.Model

/-- no object file has a non-empty writable data section (`.data`, `.bss`, `.tdata`, `.tbss`, COMMON) -/
theorem C16_sections : ∀ f ∈ Gen.objectFiles, f.writable = [] ∧ f.tls = [] := by decide +kernel

/-- every file-scope or function-static object lives in a read-only section class
(0: `.rodata`/`.text`, 1: `.data.rel.ro*`, written only by the dynamic loader) -/
theorem C16_no_writable : ∀ f ∈ Gen.objectFiles, ∀ o ∈ f.objects, o.cls ≤ 1 := by decide +kernel

/-- the translator saw the whole library (a vanished file list would make the above vacuous) -/
theorem C16_nonvacuous : 30 ≤ Gen.objectFiles.length ∧
    (Gen.objectFiles.flatMap (·.objects)).length ≥ 1 := by decide +kernel

/-- the state the library shares could also sit in the C library: no object file imports a function that POSIX lists
as working on process-wide hidden state (`rand`, `strtok`, `localtime`, `strerror`, `getenv`, ...).
`Gen.imports` is regenerated from the undefined symbols of the -O2 objects. -/
theorem C16_no_shared_libc : ∀ s ∈ Gen.imports, s ∉ Spec.sharedStateLibc := by decide +kernel

/-- the import table is not empty (the allocator and `memcpy` are always there), and the two generators of hidden
state the property is most often broken with are on the list -/
theorem C16_imports_nonvacuous : n!"malloc" ∈ Gen.imports ∧ n!"memcpy" ∈ Gen.imports ∧
    n!"rand" ∈ Spec.sharedStateLibc ∧ n!"strtok" ∈ Spec.sharedStateLibc := by decide +kernel

theorem runSched_append {σ ρ} (a b : List (Nat × Call σ ρ)) (w : World σ ρ) :
    runSched (a ++ b) w = runSched b (runSched a w) := by
  simp [runSched, List.foldl_append]

theorem project_cons {σ ρ} (tc : Nat × Call σ ρ) (rest : List (Nat × Call σ ρ)) (t : Nat) :
    project (tc :: rest) t = if tc.1 = t then tc.2 :: project rest t else project rest t := by
  unfold project
  rw [List.filter_cons, apply_ite (List.map _), List.map_cons]
  exact ite_congr (propext beq_iff_eq) (fun _ => rfl) (fun _ => rfl)

/-- after any schedule, thread `t`'s store and log are what running its
projected program from its own initial store gives, appended to its earlier log -/
theorem sched_local {σ ρ} (sched : List (Nat × Call σ ρ)) (w : World σ ρ) (t : Nat) :
    (runSched sched w).store t = (runSeq (project sched t) (w.store t)).1 ∧
    (runSched sched w).log t = w.log t ++ (runSeq (project sched t) (w.store t)).2 := by
  induction sched generalizing w with
  | nil => exact ⟨rfl, (List.append_nil _).symm⟩
  | cons tc rest ih =>
    obtain ⟨ih1, ih2⟩ := ih (stepSched w tc)
    show (runSched rest (stepSched w tc)).store t = _ ∧ (runSched rest (stepSched w tc)).log t = _
    rw [ih1, ih2, project_cons]
    -- a step of another thread leaves `t`'s store and log alone; a step of `t` itself is the head of its program
    by_cases h : tc.1 = t
    · subst h
      simp only [stepSched, if_true, runSeq, List.append_assoc, List.singleton_append, and_self]
    · simp only [stepSched, Ne.symm h, h, if_false, and_self]

/-- **C16** every interleaving `sched` of the threads' programs gives every thread exactly the
results (and final objects) it obtains running alone. -/
theorem C16_schedule_independent {σ ρ} (progs : Nat → List (Call σ ρ)) (init : Nat → σ)
    (sched : List (Nat × Call σ ρ)) (hproj : ∀ t, project sched t = progs t) (t : Nat) :
    (runSched sched ⟨init, fun _ => []⟩).log t = (runSeq (progs t) (init t)).2 ∧
    (runSched sched ⟨init, fun _ => []⟩).store t = (runSeq (progs t) (init t)).1 := by
  have := sched_local sched ⟨init, fun _ => []⟩ t
  rw [hproj t] at this
  exact ⟨this.2, this.1⟩

/-! non-vacuity: a two-thread interleaving of three calls satisfies the hypothesis -/
example : project [(0, (⟨fun s => (s + 1, s)⟩ : Call Nat Nat)), (1, ⟨fun s => (s * 2, s)⟩), (0, ⟨fun s => (s + 5, s)⟩)] 0
    = [⟨fun s => (s + 1, s)⟩, ⟨fun s => (s + 5, s)⟩] := rfl

end LWV.Props.C16
