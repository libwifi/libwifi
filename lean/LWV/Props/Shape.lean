import LWV.Props.C02
import LWV.Model.Mgmt
/-
The shape of the frames the classifier hands out (`Shape`), which the theorems about the parsers
take as their hypothesis, and the facts about the fixed-parameter sizes they need.
-/
namespace LWV.Props.C01
open LWV LWV.Model

structure Shape (f : Frame) : Prop where
  fc : ∃ b0 b1, f.fc = [b0, b1]
  header : f.header.length = f.headerLen
  body : f.len = f.headerLen + f.body.length
  hmin : 4 ≤ f.headerLen
  long : ∀ b0 b1, f.fc = [b0, b1] → fcType b0 ≠ 1 → 24 ≤ f.headerLen

theorem core_shape {bs : Bytes} {skip : Nat} {fcs : Bool} {s : Spec.Slices} (h : Spec.classifyCore bs skip fcs = some s)
    (fl : Nat) (rt : Option RtInfo) : Shape (C02.frameOf s fl rt) := by
  rw [C02.classifyCore_coreOf] at h
  by_cases hshort : fcs = true ∧ (bs.drop skip).length < 4
  · rw [if_pos hshort] at h
    cases h
  rw [if_neg hshort] at h
  generalize (if fcs = true then _ else _ : Bytes) = frame at h
  obtain ⟨b0, b1, hl, hh, hle, hfc, hlen, hhl, hhdr, hbody⟩ := C02.coreOf_some h
  obtain ⟨h4, h24⟩ := C02.hdrLen_bounds hh
  refine ⟨⟨b0, b1, hfc⟩, ?_, ?_, (hhl ▸ h4 : 4 ≤ s.headerLen), fun c0 c1 hc hne => ?_⟩
  · show s.header.length = s.headerLen
    rw [hhdr, hhl, List.length_take]
    exact Nat.min_eq_left hle
  · show s.len = s.headerLen + s.body.length
    rw [hlen, hhl, hbody, List.length_drop]
    exact (Nat.add_sub_cancel' hle).symm
  · cases hfc.symm.trans hc
    exact (hhl ▸ h24 hne : 24 ≤ s.headerLen)

theorem classify_shape (rt : Bool) (bs : Bytes) (f : Frame) (h : classify rt bs = .ok f) : Shape f := by
  unfold classify at h
  split at h
  · obtain ⟨info, _, h⟩ := Outcome.bind_eq_ok h
    obtain ⟨s, hs, rfl⟩ := (C02.classifyCore_sim ..).exists_of_ok h
    exact core_shape hs _ _
  · obtain ⟨s, hs, rfl⟩ := (C02.classifyCore_sim ..).exists_of_ok h
    exact core_shape hs _ _

/-- the capability field lies inside the fixed parameters plus the first element header, for every kind -/
theorem capsOff_lt (k : MKind) : k.capsOff + 1 < k.fixedLen + 2 := by
  cases k <;> decide

end LWV.Props.C01
