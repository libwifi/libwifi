import LWV.Props.C03
import LWV.Props.C05
import LWV.Props.C07
/-
C03 (full histories) — the generator theorem for ARBITRARY edit histories.

`Props/C03.lean` proves that a freshly created object serialises to the Spec frame and that this
stays true while tags (or action details) are APPENDED.  Here every edit the API offers is covered.
The reference interpreter `refStep` on (elements, details) is `Spec.refEdit` on admissible tag edits
(`refStep_refEdit`); `stepTag_refEdit` says that the model's tag operations commute with it, `good_step`
carries that to objects, and the history theorems iterate `good_step`.  Without side conditions
(`good_any_tag`, `tags_any_history`) an edit still never faults and the object serialises to the frame
of the elements its tag bytes parse to.
-/
namespace LWV.Props.C03Full
open LWV LWV.Model LWV.Spec LWV.Props.C05 LWV.Props.C03

/-- kinds for which `libwifi_set_<kind>_ssid` exists -/
def hasSsidSetter : GKind → Bool
  | .beacon | .probeResp => true
  | _ => false

/-- kinds for which `libwifi_set_<kind>_channel` exists -/
def hasChannelSetter : GKind → Bool
  | .beacon | .probeResp | .assocResp | .reassocResp => true
  | _ => false

theorem ssidSetter_hasTags (k : GKind) (h : hasSsidSetter k = true) : kindHasTags k = true := by
  cases k
  case beacon | probeResp => rfl
  all_goals cases h

theorem channelSetter_hasTags (k : GKind) (h : hasChannelSetter k = true) : kindHasTags k = true := by
  cases k
  case beacon | probeResp | assocResp | reassocResp => rfl
  all_goals cases h

/-- `libwifi_set_*_ssid` takes a C string (`strlen` octets): the model's `setSsid` carries the octets
before the terminating NUL, and they replace the SSID element -/
theorem good_setSsid_cstr (k : GKind) (a : GArgs) (o : GObj) (es : List Elem) (det : Bytes) (g : Good k a o es det)
    (ht : o.hasTags = true) (hne : noInnerEmpty es = true) (s : Bytes) (hd : (cstr s).length ≤ 255) :
    ∃ o', o.edit (.tag (.setSsid (cstr s))) = .ok (0, o') ∧ o'.hasTags = true ∧
      Good k a o' (es.eraseP (fun e => e.num.toNat == 0) ++ [⟨0, cstr s⟩]) det := by
  obtain ⟨t', h1, hinv', hparse'⟩ := C05_set o.tags g.wf.inv (by rw [g.wf.parse]; exact hne) 0 (cstr s) hd
  exact ⟨_, good_tag_edit g ht (op := .setSsid (cstr s)) h1 hinv' (by rw [hparse', g.wf.parse]; rfl)⟩

/-- **any tag edit, no side condition** whatever the operation and its arguments (over-long
bodies, numbers beyond one octet, inner empty elements): the call does not fail or fault, and the
object still serialises to the Spec frame of the elements its tag bytes parse to, with the matching
length.  Outside the admissible region only WHICH elements these are is not fixed. -/
theorem good_any_tag (k : GKind) (a : GArgs) (o : GObj) (es : List Elem) (det : Bytes) (g : Good k a o es det)
    (ht : o.hasTags = true) (op : TagOp) :
    ∃ r o', o.edit (.tag op) = .ok (r, o') ∧ o'.hasTags = true ∧ Good k a o' (parse o'.tags.params) det := by
  obtain ⟨r, t', h1, hinv'⟩ := step_inv o.tags g.wf.inv op
  exact ⟨r, _, good_tag_edit g ht h1 hinv' rfl⟩

/-- reference semantics of one edit on (elements, action details) -/
def refStep (st : List Elem × Bytes) : GEdit → List Elem × Bytes
  | .tag (.add n d) => (st.1 ++ [⟨UInt8.ofNat n, d⟩], st.2)
  | .tag (.remove n) => (st.1.eraseP (fun e => e.num.toNat == n), st.2)
  | .tag (.setSsid d) => (st.1.eraseP (fun e => e.num.toNat == 0) ++ [⟨0, d⟩], st.2)
  | .tag (.setChannel c) => (st.1.eraseP (fun e => e.num.toNat == 3) ++ [⟨3, [c]⟩], st.2)
  | .tag (.check _) => st
  | .detail d => (st.1, st.2 ++ d)
  | .freeDetail => (st.1, [])

/-- the edit exists for the kind (`editApplies` of the harness; counting is allowed wherever there
are tags) and is storable / inside the iterator's documented limits in the reference state -/
def Admissible (k : GKind) (st : List Elem × Bytes) : GEdit → Bool
  | .tag (.add n d) => kindHasTags k && decide (n < 256) && decide (d.length ≤ 255)
  | .tag (.remove _) => kindHasTags k && noInnerEmpty st.1
  | .tag (.setSsid d) => hasSsidSetter k && noInnerEmpty st.1 && decide (d.length ≤ 255)
  | .tag (.setChannel _) => hasChannelSetter k && noInnerEmpty st.1
  | .tag (.check _) => kindHasTags k
  | .detail d => isAction k && decide (st.2.length + d.length ≤ 255)
  | .freeDetail => isAction k

/-- what the property says about the value an edit returns, in the reference state before it -/
def retOk (st : List Elem × Bytes) : GEdit → Int → Prop
  | .tag (.remove _), r => st.1 ≠ [] → r = 0
  | .tag (.check n), r => noInnerEmpty st.1 = true → r = ((st.1.countP (fun e => e.num.toNat == n) : Nat) : Int)
  | .tag _, r => r = 0
  | .detail d, r => r = ((st.2 ++ d).length : Nat)
  | .freeDetail, r => r = 0

/-- the tag edits of `TagOp` as operations of the Spec's reference semantics -/
def toEditOp : TagOp → EditOp
  | .add n d => .add n d
  | .remove n => .remove n
  | .setSsid d => .set 0 d
  | .setChannel c => .set 3 [c]
  | .check n => .check n

/-- on admissible tag edits `refStep` IS `Spec.refEdit` -/
theorem refStep_refEdit (k : GKind) (st : List Elem × Bytes) (op : TagOp) (h : Admissible k st (.tag op) = true) :
    Spec.refEdit st.1 (toEditOp op) = some (refStep st (.tag op)).1 ∧ (refStep st (.tag op)).2 = st.2 := by
  cases op with
  | add n d =>
    obtain ⟨hn, hd⟩ := Bool.and_eq_true_iff.mp h
    exact ⟨if_pos ⟨of_decide_eq_true (Bool.and_eq_true_iff.mp hn).2, of_decide_eq_true hd⟩, rfl⟩
  | remove n => exact ⟨if_pos (Bool.and_eq_true_iff.mp h).2, rfl⟩
  | setSsid d =>
    obtain ⟨hne, hd⟩ := Bool.and_eq_true_iff.mp h
    exact ⟨if_pos ⟨(Bool.and_eq_true_iff.mp hne).2, by decide, of_decide_eq_true hd⟩, rfl⟩
  | setChannel c => exact ⟨if_pos ⟨(Bool.and_eq_true_iff.mp h).2, by decide, (by decide : 1 ≤ 255)⟩, rfl⟩
  | check n => exact ⟨rfl, rfl⟩

/-- the tag operations against the Spec's reference edit: every operation is total on `Inv` and keeps
it; where `Spec.refEdit` is defined the stored elements afterwards are its result and the return
value is the one the property fixes -/
theorem stepTag_refEdit (t : Tags) (h : C05.Inv t) (op : TagOp) :
    ∃ r t', stepTag t op = .ok (r, t') ∧ C05.Inv t' ∧
      ∀ es', Spec.refEdit (parse t.params) (toEditOp op) = some es' →
        parse t'.params = es' ∧ ∀ det, retOk (parse t.params, det) (.tag op) r := by
  -- both setters are `setTag` at a fixed number
  have set : ∀ n d, ∃ r t', setTag t n d = .ok (r, t') ∧ C05.Inv t' ∧
      ∀ es', Spec.refEdit (parse t.params) (.set n d) = some es' → parse t'.params = es' ∧ ∀ _ : Bytes, r = 0 := by
    intro n d
    obtain ⟨r, t', h1, h2, h3⟩ := set_general t h n d
    refine ⟨r, t', h1, h2, fun es' he => ?_⟩
    obtain ⟨hc, he⟩ := Option.ite_none_right_eq_some.mp he
    obtain ⟨hr, h4⟩ := h3 hc.1 hc.2.2
    exact ⟨h4.trans (Option.some.inj he), fun _ => hr⟩
  cases op with
  | add n d =>
    obtain ⟨t', h1, h2, -, h4⟩ := add_general t h n d
    refine ⟨0, t', by simp only [stepTag, h1, Outcome.bind_ok], h2, fun es' he => ?_⟩
    obtain ⟨hc, he⟩ := Option.ite_none_right_eq_some.mp he
    exact ⟨(h4 hc.2).trans (Option.some.inj he), fun _ => rfl⟩
  | remove n =>
    obtain ⟨r, t', h1, h2, h3, -, h5⟩ := remove_general t h n
    refine ⟨r, t', h1, h2, fun es' he => ?_⟩
    obtain ⟨hne, he⟩ := Option.ite_none_right_eq_some.mp he
    exact ⟨(h3 hne).trans (Option.some.inj he), fun _ => h5⟩
  | setSsid d => exact set 0 d
  | setChannel c => exact set 3 [c]
  | check n =>
    obtain ⟨c, hc, hcnt⟩ := check_general t h n
    exact ⟨c, t, by simp only [stepTag, hc, Outcome.bind_ok], h, fun es' he => ⟨Option.some.inj he, fun _ => hcnt⟩⟩

theorem admissible_hasTags (k : GKind) (st : List Elem × Bytes) (op : TagOp) (h : Admissible k st (.tag op) = true) :
    kindHasTags k = true := by
  cases op with
  | add n d => exact (Bool.and_eq_true_iff.mp (Bool.and_eq_true_iff.mp h).1).1
  | remove n => exact (Bool.and_eq_true_iff.mp h).1
  | setSsid d => exact ssidSetter_hasTags k (Bool.and_eq_true_iff.mp (Bool.and_eq_true_iff.mp h).1).1
  | setChannel c => exact channelSetter_hasTags k (Bool.and_eq_true_iff.mp h).1
  | check n => exact h

/-- **C03 (step)** one admissible edit on a `Good` object succeeds, returns what the property
fixes, and the object is `Good` for the reference state after the edit -/
theorem good_step (k : GKind) (a : GArgs) (o : GObj) (st : List Elem × Bytes) (g : Good k a o st.1 st.2)
    (e : GEdit) (had : Admissible k st e = true) :
    ∃ r o', o.edit e = .ok (r, o') ∧ retOk st e r ∧ Good k a o' (refStep st e).1 (refStep st e).2 := by
  cases e with
  | tag op =>
    obtain ⟨r, t', h1, h2, h3⟩ := stepTag_refEdit o.tags g.wf.inv op
    have ht : o.hasTags = true := by
      rw [hasTags_eq, g.kind]
      exact admissible_hasTags k st op had
    obtain ⟨hr1, hr2⟩ := refStep_refEdit k st op had
    rw [← g.wf.parse] at hr1
    obtain ⟨h4, h5⟩ := h3 _ hr1
    rw [g.wf.parse] at h5
    obtain ⟨e1, -, e3⟩ := good_tag_edit g ht h1 h2 h4
    rw [← hr2] at e3
    exact ⟨r, _, e1, h5 st.2, e3⟩
  | detail d =>
    obtain ⟨ha, hd⟩ := Bool.and_eq_true_iff.mp had
    obtain ⟨o', h1, h2⟩ := good_detail (C07Any.isAct_iff.mp ha) g d (of_decide_eq_true hd)
    exact ⟨_, o', h1, rfl, h2⟩
  | freeDetail =>
    exact ⟨0, { o with detail := [], detailLen := 0 }, rfl, rfl, g.transfer rfl rfl rfl
      ⟨g.wf.fc, g.wf.inv, g.wf.parse, ⟨rfl, rfl, Nat.zero_le _⟩, g.wf.noTags, fun _ => rfl⟩⟩

def runEdits : GObj → List GEdit → Outcome (List Int × GObj)
  | o, [] => .ok ([], o)
  | o, e :: es =>
    match o.edit e with
    | .ok (r, o') =>
      match runEdits o' es with
      | .ok (rs, o'') => .ok (r :: rs, o'')
      | .err c => .err c
      | .fault f => .fault f
    | .err c => .err c
    | .fault f => .fault f

def refRun (st : List Elem × Bytes) (edits : List GEdit) : List Elem × Bytes := edits.foldl refStep st

def admissibleAll (k : GKind) : List Elem × Bytes → List GEdit → Bool
  | _, [] => true
  | st, e :: es => Admissible k st e && admissibleAll k (refStep st e) es

def retsOk : List Elem × Bytes → List GEdit → List Int → Prop
  | _, [], [] => True
  | st, e :: es, r :: rs => retOk st e r ∧ retsOk (refStep st e) es rs
  | _, _, _ => False

theorem good_history (k : GKind) (a : GArgs) (edits : List GEdit) (o : GObj) (st : List Elem × Bytes)
    (g : Good k a o st.1 st.2) (had : admissibleAll k st edits = true) :
    ∃ rs o', runEdits o edits = .ok (rs, o') ∧ retsOk st edits rs ∧
      Good k a o' (refRun st edits).1 (refRun st edits).2 := by
  induction edits generalizing o st with
  | nil => exact ⟨[], o, rfl, trivial, g⟩
  | cons e es ih =>
    simp only [admissibleAll, Bool.and_eq_true] at had
    obtain ⟨r, o1, h1, h2, g1⟩ := good_step k a o st g e had.1
    obtain ⟨rs, o', h3, h4, g2⟩ := ih o1 (refStep st e) g1 had.2
    exact ⟨r :: rs, o', by simp [runEdits, h1, h3], ⟨h2, h4⟩, g2⟩

/-- **any tag history, no side condition** on an object with tags every sequence of tag edits runs
to the end, and the final object serialises to the Spec frame of the elements its tag bytes parse to -/
theorem tags_any_history (k : GKind) (a : GArgs) (ops : List TagOp) (o : GObj) (es : List Elem) (det : Bytes)
    (g : Good k a o es det) (ht : o.hasTags = true) :
    ∃ rs o', runEdits o (ops.map .tag) = .ok (rs, o') ∧ o'.hasTags = true ∧ Good k a o' (parse o'.tags.params) det := by
  induction ops generalizing o es with
  | nil =>
    refine ⟨[], o, rfl, ht, ?_⟩
    rw [g.wf.parse]; exact g
  | cons op ops ih =>
    obtain ⟨r, o1, h1, ht1, g1⟩ := good_any_tag k a o es det g ht op
    obtain ⟨rs, o', h2, ht2, g2⟩ := ih o1 _ g1 ht1
    exact ⟨r :: rs, o', by simp [runEdits, h1, h2], ht2, g2⟩

/-- the reference state of a freshly created object: the Spec's initial elements, no details -/
def st0 (k : GKind) (a : GArgs) : List Elem × Bytes := (Spec.initialElems (sk k) (sa a), [])

/-- **C03 (full history)** for every generator, all arguments (SSID up to the one-octet limit) and
EVERY admissible history of edits — appended, removed and replaced tags, occurrence counts, appended
and freed action details, in any order —: creation and every edit succeed, every return value is
the one the property fixes, and the final object is `Good` for the reference state, i.e. it
serialises to `Spec.frame` of the reference elements / details and reports that frame's length. -/
theorem C03_full_history (k : GKind) (a : GArgs) (hs : (cstr a.ssid).length ≤ 255)
    (edits : List GEdit) (had : admissibleAll k (st0 k a) edits = true) :
    ∃ o0 rs o, create k a = .ok (0, o0) ∧ runEdits o0 edits = .ok (rs, o) ∧ retsOk (st0 k a) edits rs ∧
      Good k a o (refRun (st0 k a) edits).1 (refRun (st0 k a) edits).2 := by
  obtain ⟨o0, hc, g0⟩ := good_create k a hs
  obtain ⟨rs, o, h1, h2, h3⟩ := good_history k a edits o0 (st0 k a) g0 had
  exact ⟨o0, rs, o, hc, h1, h2, h3⟩

/-- in hypothesis form, with no bound on the SSID: if the created object holds the documented initial elements —
it does when the SSID fits one octet (`good_create_any`), and for a kind that writes no SSID element whatever
the argument — the last object of an admissible history is `Good` for the reference state -/
theorem good_of_run_parse (k : GKind) (a : GArgs) (edits : List GEdit) (had : admissibleAll k (st0 k a) edits = true)
    {o0 o : GObj} {rs : List Int} (hc : create k a = .ok (0, o0))
    (hp : parse o0.tags.params = Spec.initialElems (sk k) (sa a)) (hr : runEdits o0 edits = .ok (rs, o)) :
    Good k a o (refRun (st0 k a) edits).1 (refRun (st0 k a) edits).2 := by
  obtain ⟨r, o0', h, g, -⟩ := good_create_any k a
  cases hc.symm.trans h
  rw [hp] at g
  obtain ⟨rs', o', h2, -, g'⟩ := good_history k a edits o0 (st0 k a) g had
  cases hr.symm.trans h2
  exact g'

/-- … in particular under the SSID bound (the empty history gives the created object itself) -/
theorem good_of_run (k : GKind) (a : GArgs) (hs : (cstr a.ssid).length ≤ 255)
    (edits : List GEdit) (had : admissibleAll k (st0 k a) edits = true) {o0 o : GObj} {rs : List Int}
    (hc : create k a = .ok (0, o0)) (hr : runEdits o0 edits = .ok (rs, o)) :
    Good k a o (refRun (st0 k a) edits).1 (refRun (st0 k a) edits).2 := by
  obtain ⟨r, o0', h, -, s⟩ := good_create_any k a
  cases hc.symm.trans h
  exact good_of_run_parse k a edits had hc (s hs).2 hr

theorem C03_full_frame (k : GKind) (a : GArgs) (hs : (cstr a.ssid).length ≤ 255)
    (edits : List GEdit) (had : admissibleAll k (st0 k a) edits = true) :
    ∃ o0 rs o, create k a = .ok (0, o0) ∧ runEdits o0 edits = .ok (rs, o) ∧ retsOk (st0 k a) edits rs ∧
      o.kind = k ∧
      o.encoding = .ok (Spec.frame (sk k) (sa a) (refRun (st0 k a) edits).1 (refRun (st0 k a) edits).2) ∧
      o.length = (Spec.frame (sk k) (sa a) (refRun (st0 k a) edits).1 (refRun (st0 k a) edits).2).length := by
  obtain ⟨o0, rs, o, h1, h2, h3, g⟩ := C03_full_history k a hs edits had
  exact ⟨o0, rs, o, h1, h2, h3, g.kind, g.enc, g.len⟩

/-- **C03/C07 (full history, dump)** the final object of any admissible history, dumped into ANY
buffer: a buffer shorter than the Spec frame is refused with `-EINVAL` and left untouched; otherwise
exactly the Spec frame is written from the first byte, its length is returned, and the rest of the
buffer is unchanged. -/
theorem C03_full_dump (k : GKind) (a : GArgs) (hs : (cstr a.ssid).length ≤ 255)
    (edits : List GEdit) (had : admissibleAll k (st0 k a) edits = true) :
    ∃ o0 rs o, create k a = .ok (0, o0) ∧ runEdits o0 edits = .ok (rs, o) ∧
      ∀ buf : Bytes,
        let f := Spec.frame (sk k) (sa a) (refRun (st0 k a) edits).1 (refRun (st0 k a) edits).2
        dumpInto o buf = if buf.length < f.length then .ok (-EINVAL, buf) else .ok ((f.length : Nat), f ++ buf.drop f.length) := by
  obtain ⟨o0, rs, o, h1, h2, _, g⟩ := C03_full_history k a hs edits had
  exact ⟨o0, rs, o, h1, h2, fun buf => C07.C07_dump k a o _ _ g buf⟩

/-! A beacon history with add, set-SSID, remove and count, and an action history with detail,
free-detail, detail: the hypotheses of the theorems hold (`decide`), the Spec frame is the expected
octet string, and — independently of the theorems — evaluating the MODEL on the same history in
the kernel gives the same octets, return values and buffer behaviour. -/

def modelRun (k : GKind) (a : GArgs) (edits : List GEdit) (buf : Bytes) : Outcome (List Int × Int × Bytes) := do
  let (_, o0) ← create k a
  let (rs, o) ← runEdits o0 edits
  let (r, b) ← dumpInto o buf
  .ok (rs, r, b)

def exArgs : GArgs := { ssid := [0x41, 0x42, 0, 0x43], ch := 6, clk := ⟨5, 1000⟩ }

/-- SSID "AB", channel 6; then: add vendor element, SSID := "XY", drop the DS element, count 221 -/
def exEdits : List GEdit :=
  [.tag (.add 221 [1, 2]), .tag (.setSsid [0x58, 0x59]), .tag (.remove 3), .tag (.check 221)]

def exFrame : Bytes :=
  [0x80, 0, 0, 0] ++ List.replicate 18 0 ++ [0, 0, 0x41, 0x4b, 0x4c, 0, 0, 0, 0, 0, 0x64, 0, 1, 0,
    221, 2, 1, 2, 0, 2, 0x58, 0x59]

theorem exFrame_eq :
    Spec.frame (sk .beacon) (sa exArgs) (refRun (st0 .beacon exArgs) exEdits).1 (refRun (st0 .beacon exArgs) exEdits).2 = exFrame := by
  decide +kernel

example : ∃ o0 rs o, create .beacon exArgs = .ok (0, o0) ∧ runEdits o0 exEdits = .ok (rs, o) ∧
    o.encoding = .ok exFrame ∧ o.length = 44 ∧
    dumpInto o (List.replicate 43 0xA5) = .ok (-EINVAL, List.replicate 43 0xA5) ∧
    dumpInto o (List.replicate 46 0xA5) = .ok (44, exFrame ++ [0xA5, 0xA5]) := by
  obtain ⟨o0, rs, o, h1, h2, _, g⟩ := C03_full_history .beacon exArgs (by decide +kernel) exEdits (by decide +kernel)
  have henc := g.enc
  have hlen := g.len
  rw [exFrame_eq] at henc hlen
  refine ⟨o0, rs, o, h1, h2, henc, by rw [hlen]; rfl, ?_, ?_⟩
  · rw [C07.C07_dump .beacon exArgs o _ _ g, exFrame_eq]; rfl
  · rw [C07.C07_dump .beacon exArgs o _ _ g, exFrame_eq]; rfl

/-- the model itself, evaluated: same octets, return values 0, 0, 0 and the count 1 -/
example : modelRun .beacon exArgs exEdits (List.replicate 46 0xA5) = .ok ([0, 0, 0, 1], 44, exFrame ++ [0xA5, 0xA5]) := by
  decide +kernel

def exActArgs : GArgs := { cat := 4 }

def exActEdits : List GEdit := [.detail [1, 2], .freeDetail, .detail [3]]

def exActFrame : Bytes := [0xd0, 0, 0, 0] ++ List.replicate 18 0 ++ [0, 0, 4, 3]

theorem exActFrame_eq :
    Spec.frame (sk .action) (sa exActArgs) (refRun (st0 .action exActArgs) exActEdits).1
      (refRun (st0 .action exActArgs) exActEdits).2 = exActFrame := by
  decide +kernel

example : ∃ o0 rs o, create .action exActArgs = .ok (0, o0) ∧ runEdits o0 exActEdits = .ok (rs, o) ∧
    o.encoding = .ok exActFrame ∧ o.length = 26 := by
  obtain ⟨o0, rs, o, h1, h2, _, _, henc, hlen⟩ := C03_full_frame .action exActArgs (by decide +kernel) exActEdits (by decide +kernel)
  rw [exActFrame_eq] at henc hlen
  exact ⟨o0, rs, o, h1, h2, henc, by rw [hlen]; rfl⟩

/-- the model itself, evaluated: the detail lengths 2, 0 (freed), 1 are returned -/
example : modelRun .action exActArgs exActEdits (List.replicate 26 0xA5) = .ok ([2, 0, 1], 26, exActFrame) := by
  decide +kernel

/-- the side conditions exclude something: an SSID setter on an authentication frame, details beyond
255 octets, and a removal behind an inner empty element are not admissible -/
example : admissibleAll .auth (st0 .auth {}) [.tag (.setSsid [0x58])] = false ∧
    admissibleAll .action (st0 .action {}) [.detail (List.replicate 200 0), .detail (List.replicate 56 0)] = false ∧
    admissibleAll .beacon (st0 .beacon exArgs) [.tag (.add 7 []), .tag (.add 9 [1]), .tag (.remove 9)] = false := by
  decide +kernel

/-- … and the last exclusion is necessary: behind an inner empty element the iterator (and with it
`libwifi_remove_tag`) sees nothing, so element 9 stays in the frame -/
example : modelRun .beacon exArgs [.tag (.add 7 []), .tag (.add 9 [1]), .tag (.remove 9)] (List.replicate 50 0xA5) =
    .ok ([0, 0, 0], 48, [0x80, 0, 0, 0] ++ List.replicate 18 0 ++ [0, 0, 0x41, 0x4b, 0x4c, 0, 0, 0, 0, 0, 0x64, 0, 1, 0,
      0, 2, 0x41, 0x42, 3, 1, 6, 7, 0, 9, 1, 1] ++ [0xA5, 0xA5]) := by
  decide +kernel

end LWV.Props.C03Full
