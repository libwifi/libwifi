import LWV.Props.C07
/-
C07 (every well-formed object) — the serialisation clause of C07 for objects the caller has
written into directly.

The C structs are public, so a caller may store into an object's header without going through a
setter — the harness does so for the flag octet of the frame control (`fcflags=<n>`).  Such objects
are not `Good` (they do not serialise to the Spec frame of their arguments), so `C07_dump` is
silent about them.  Here the clause is proved from a representation invariant `WF` alone, `WF` is
shown to be the weakest hypothesis under which it can hold, to hold for every created object, and
to be preserved by every edit the API offers and by the store into the flag octet.  The store is
`Model.setFcFlags` (Model/Frames.lean), the function the driver applies to the model object.
-/
namespace LWV.Props.C07Any
open LWV LWV.Model

/-- Representation invariant of a generator object: the model value is the image of a C object.
Nothing is said about the VALUES of any octet (frame control, addresses, fixed part, tags are
arbitrary), so objects the caller has written into are covered.  By `wf_iff` this is, next to the
two-octet frame control, EXACTLY the statement that the encoding exists and has the reported length
— no weaker hypothesis can give the serialisation clause. -/
structure WF (o : GObj) : Prop where
  /-- `frame_control` is a two-octet member.  Needed so that the store into the flag octet replaces
  octet 1 of the header and moves nothing. -/
  fc : o.fc.length = 2
  /-- The memory image of the structs that the length routine measures with `sizeof` has that size.
  In C this is automatic (fixed-size array members); in the model the addresses are lists, so it has
  to be said.  Spelled out (`sized_of_fields`): six-octet addresses — RTS two, CTS one and an empty
  `a2`, the others three — and a one-octet fixed part for action frames. -/
  sized : (sizeofPart o).length = sizeofLen o.kind
  /-- Action frames: the recorded detail length does not exceed the detail block, so `dump` reads
  inside it.  (The first `detailLen` octets are copied.) -/
  det : isAct o.kind = true → o.detailLen ≤ o.detail.length
  /-- Kinds with tagged parameters: the recorded length does not exceed the parameter block, so
  `dump` reads inside it.  (The first `tags.length` octets are copied.) -/
  tags : o.hasTags = true → o.tags.length ≤ o.tags.params.length

instance (o : GObj) : Decidable (WF o) :=
  decidable_of_iff
    (o.fc.length = 2 ∧ (sizeofPart o).length = sizeofLen o.kind ∧
      (isAct o.kind = true → o.detailLen ≤ o.detail.length) ∧
      (o.hasTags = true → o.tags.length ≤ o.tags.params.length))
    ⟨fun ⟨a, b, c, d⟩ => ⟨a, b, c, d⟩, fun w => ⟨w.fc, w.sized, w.det, w.tags⟩⟩

/-- the two read clauses of `WF` are one: the recorded count lies within the block it counts -/
theorem count_le_iff (o : GObj) : count o ≤ (block o).length ↔
    (isAct o.kind = true → o.detailLen ≤ o.detail.length) ∧ (o.hasTags = true → o.tags.length ≤ o.tags.params.length) := by
  unfold count block
  by_cases ha : isAct o.kind = true
  · have ht : ¬ o.hasTags = true := by rw [C03Full.hasTags_eq, isAct_noTags ha]; exact Bool.false_ne_true
    rw [if_pos ha, if_pos ha]
    exact ⟨fun h => ⟨fun _ => h, fun h' => absurd h' ht⟩, fun h => h.1 ha⟩
  · rw [if_neg ha, if_neg ha]
    by_cases ht : o.hasTags = true
    · rw [if_pos ht, if_pos ht]
      exact ⟨fun h => ⟨fun h' => absurd h' ha, fun _ => h⟩, fun h => h.2 ht⟩
    · rw [if_neg ht, if_neg ht]
      exact ⟨fun _ => ⟨fun h' => absurd h' ha, fun h' => absurd h' ht⟩, fun _ => Nat.le_refl _⟩

/-- **`WF` is the weakest hypothesis**: an object is well formed exactly when its frame control is
two octets and `libwifi_dump_<kind>` has an encoding whose length is what
`libwifi_get_<kind>_length` reports. -/
theorem wf_iff (o : GObj) : WF o ↔ o.fc.length = 2 ∧ ∃ e, o.encoding = .ok e ∧ e.length = o.length := by
  constructor
  · intro w
    have hc := (count_le_iff o).mpr ⟨w.det, w.tags⟩
    refine ⟨w.fc, _, (encoding_ok_iff o).mpr ⟨hc, rfl⟩, ?_⟩
    rw [List.length_append, List.length_take_of_le hc]
    exact ((sized_iff o).mp w.sized).symm
  · rintro ⟨hfc, e, he, hlen⟩
    obtain ⟨hc, rfl⟩ := (encoding_ok_iff o).mp he
    rw [List.length_append, List.length_take_of_le hc] at hlen
    obtain ⟨hd, ht⟩ := (count_le_iff o).mp hc
    exact ⟨hfc, (sized_iff o).mpr hlen.symm, hd, ht⟩

theorem wf_encoding_length {o : GObj} (w : WF o) : ∃ e, o.encoding = .ok e ∧ e.length = o.length :=
  ((wf_iff o).mp w).2

/-- **C07 (dump, every well-formed object)** for every object that is the image of a C object —
whatever its octets, in particular after the caller has stored into its header — and EVERY buffer:
`libwifi_dump_<kind>` refuses a buffer smaller than `libwifi_get_<kind>_length` with `-EINVAL` and
leaves it untouched; otherwise it writes exactly the encoding from the first byte, returns its
length (the reported one), and the rest of the buffer is unchanged. -/
theorem C07_dump_any (o : GObj) (w : WF o) (buf : Bytes) :
    ∃ e, o.encoding = .ok e ∧ e.length = o.length ∧
      dumpInto o buf = if buf.length < e.length then .ok (-EINVAL, buf)
                       else .ok ((e.length : Nat), e ++ buf.drop e.length) := by
  obtain ⟨e, he, hl⟩ := wf_encoding_length w
  exact ⟨e, he, hl, dumpInto_eq he hl buf⟩

/-- **C07 (extent)** the success case of `libwifi_dump_<kind>` read octet by octet: the buffer keeps its size,
starts with the encoding and is unchanged from index `e.length` on — nothing beyond the reported count is written. -/
theorem C07_dump_any_extent (e buf : Bytes) (h : ¬ buf.length < e.length) :
    (e ++ buf.drop e.length).length = buf.length ∧
    (e ++ buf.drop e.length).take e.length = e ∧
    ∀ i, e.length ≤ i → (e ++ buf.drop e.length)[i]? = buf[i]? := by
  refine ⟨length_overwrite h, List.take_left, fun i hi => ?_⟩
  rw [List.getElem?_append_right hi, List.getElem?_drop, Nat.add_sub_of_le hi]

theorem C07_dump_any_cases (o : GObj) (w : WF o) (buf : Bytes) :
    (buf.length < o.length ∧ dumpInto o buf = .ok (-EINVAL, buf)) ∨
    (o.length ≤ buf.length ∧ ∃ e buf', o.encoding = .ok e ∧ e.length = o.length ∧
      dumpInto o buf = .ok ((o.length : Nat), buf') ∧ buf'.length = buf.length ∧ buf'.take o.length = e ∧
      ∀ i, o.length ≤ i → buf'[i]? = buf[i]?) := by
  obtain ⟨e, he, hl, hd⟩ := C07_dump_any o w buf
  rw [← hl]
  by_cases h : buf.length < e.length
  · exact Or.inl ⟨h, hd.trans (if_pos h)⟩
  · obtain ⟨x1, x2, x3⟩ := C07_dump_any_extent e buf h
    exact Or.inr ⟨Nat.le_of_not_lt h, e, _, he, rfl, hd.trans (if_neg h), x1, x2, x3⟩

/-- Every object the generator theorems speak about (`Good`: created by `libwifi_create_<kind>`
and edited by any admissible history) is well formed. -/
theorem good_wf {k : GKind} {a : GArgs} {o : GObj} {es : List Spec.Elem} {det : Bytes} (g : C03.Good k a o es det) : WF o :=
  (wf_iff o).mpr ⟨by rw [g.wf.fc]; rfl, _, g.enc, g.len.symm⟩

theorem header_fc (o : GObj) : ∃ rest, ∀ fc, ({ o with fc := fc } : GObj).header = fc ++ rest := by
  by_cases hc : o.kind.isCtrl = true
  · exact ⟨leBytes 2 o.duration ++ (o.a1 ++ o.a2), fun fc => (if_pos hc).trans (by simp only [List.append_assoc])⟩
  · exact ⟨leBytes 2 o.duration ++ (o.a1 ++ (o.a2 ++ (o.a3 ++ [0, 0]))),
      fun fc => (if_neg hc).trans (by simp only [List.append_assoc])⟩

/-- the static part is the frame control followed by octets that do not depend on it -/
theorem static_fc (o : GObj) : ∃ rest, ∀ fc, static { o with fc := fc } = fc ++ rest := by
  obtain ⟨rest, h⟩ := header_fc o
  by_cases hc : isAct o.kind = true ∨ o.hasTags = true
  · exact ⟨rest ++ o.fixed, fun fc => (if_pos hc).trans (by rw [h, List.append_assoc])⟩
  · exact ⟨rest, fun fc => (if_neg hc).trans (h fc)⟩

theorem setFcFlags_length (o : GObj) (n : Nat) : (setFcFlags o n).length = o.length := rfl

/-- After the store into the flag octet `libwifi_dump_<kind>` copies the same octets as before
except octet 1, which is the stored value. -/
theorem setFcFlags_encoding (o : GObj) (n : Nat) (w : WF o) (e : Bytes) (he : o.encoding = .ok e) :
    (setFcFlags o n).encoding = .ok (e.set 1 (UInt8.ofNat n)) := by
  obtain ⟨hc, rfl⟩ := (encoding_ok_iff o).mp he
  obtain ⟨rest, h⟩ := static_fc o
  refine (encoding_ok_iff _).mpr ⟨hc, ?_⟩
  -- the two frame-control octets open the static part
  match hfc : o.fc, w.fc with
  | [x, y], _ =>
    rw [show static o = _ from h o.fc, show static (setFcFlags o n) = _ from h _, hfc]
    rfl

theorem setFcFlags_wf (o : GObj) (n : Nat) (w : WF o) : WF (setFcFlags o n) := by
  obtain ⟨e, he, hl⟩ := wf_encoding_length w
  exact (wf_iff _).mpr ⟨rfl, _, setFcFlags_encoding o n w e he, List.length_set.trans hl⟩

/-- **C07 (dump after a store into the flag octet)** for every well-formed object and every
buffer, `libwifi_dump_<kind>` on the object whose flag octet the caller has set refuses a short
buffer untouched, or writes exactly the former encoding with octet 1 replaced by the stored value,
and nothing beyond. -/
theorem C07_dump_setFcFlags (o : GObj) (w : WF o) (e : Bytes) (he : o.encoding = .ok e) (n : Nat) (buf : Bytes) :
    dumpInto (setFcFlags o n) buf =
      if buf.length < e.length then .ok (-EINVAL, buf)
      else .ok ((e.length : Nat), e.set 1 (UInt8.ofNat n) ++ buf.drop e.length) := by
  obtain ⟨e', he', hl⟩ := wf_encoding_length w
  cases he.symm.trans he'
  rw [dumpInto_eq (setFcFlags_encoding o n w e he) (List.length_set.trans hl) buf, List.length_set]

/-- **C07 (dump, created objects with a caller-set flag octet)** for every object the generators
produce (any arguments, any admissible edit history), every stored flag value and every buffer:
`libwifi_dump_<kind>` refuses a buffer shorter than the Spec frame untouched, and otherwise writes
exactly the Spec frame with octet 1 replaced by the stored value, reports its length, and leaves the
rest of the buffer unchanged. -/
theorem C07_dump_fcflags (k : GKind) (a : GArgs) (o : GObj) (es : List Spec.Elem) (det : Bytes)
    (g : C03.Good k a o es det) (n : Nat) (buf : Bytes) :
    dumpInto (setFcFlags o n) buf =
      if buf.length < (Spec.frame (C03.sk k) (C03.sa a) es det).length then .ok (-EINVAL, buf)
      else .ok (((Spec.frame (C03.sk k) (C03.sa a) es det).length : Nat),
                (Spec.frame (C03.sk k) (C03.sa a) es det).set 1 (UInt8.ofNat n)
                  ++ buf.drop (Spec.frame (C03.sk k) (C03.sa a) es det).length) :=
  C07_dump_setFcFlags o (good_wf g) _ g.enc n buf

/-- `libwifi_quick_add_tag` keeps the weak invariant `t.length ≤ t.params.length` (what `dump` needs to read inside
the block) on ANY list (the stored bytes need not parse), as does every tag operation below -/
theorem quickAddTag_len {t t' : Tags} {n : Nat} {d : Bytes} (h : t.length ≤ t.params.length)
    (hs : quickAddTag t n d = .ok t') : t'.length ≤ t'.params.length := by
  rw [C05.quickAddTag_eq] at hs
  cases hs
  rw [List.length_append, List.length_cons, List.length_cons, List.length_take_of_le (Nat.mod_le _ _), Nat.add_assoc]
  exact Nat.add_le_add h (Nat.le_of_eq (Nat.add_comm 2 _))

/-- `libwifi_remove_tag` keeps it: whatever the iterator reports lies inside the first `length` octets (C06) -/
theorem removeTag_len {t t' : Tags} {n : Nat} {r : Int} (h : t.length ≤ t.params.length)
    (hs : removeTag t n = .ok (r, t')) : t'.length ≤ t'.params.length := by
  unfold removeTag at hs
  split at hs
  · rename_i e hf
    cases hs
    unfold findTag at hf
    obtain ⟨es, hr, he⟩ := Outcome.bind_eq_ok hf
    injection he with he
    have hmem : e ∈ es := List.mem_of_find?_eq_some he
    have hb : e.off + 2 + e.len ≤ t.params.length :=
      Nat.le_trans ((C06.C06_sound _ es hr).2 e hmem).1 (List.take_sublist _ _).length_le
    rw [length_cut hb]
    exact Nat.sub_le_sub_right h _
  · cases hs; exact h
  · cases hs; exact h
  · cases hs

/-- the `libwifi_set_*_ssid` / `libwifi_set_*_channel` helpers keep it: an add, then a remove -/
theorem setTag_len {t t' : Tags} {n : Nat} {d : Bytes} {r : Int} (h : t.length ≤ t.params.length)
    (hs : setTag t n d = .ok (r, t')) : t'.length ≤ t'.params.length := by
  obtain ⟨c, hc⟩ := C05.checkTag_ok t n
  have hl1 := quickAddTag_len h (C05.quickAddTag_eq t n d)
  rw [C05.setTag_eq hc (C05.quickAddTag_eq t n d)] at hs
  split at hs
  · exact removeTag_len hl1 hs
  · cases hs
    exact hl1

theorem stepTag_len {t t' : Tags} {op : TagOp} {r : Int} (h : t.length ≤ t.params.length)
    (hs : stepTag t op = .ok (r, t')) : t'.length ≤ t'.params.length := by
  cases op with
  | add n d =>
    obtain ⟨t1, h1, hs⟩ := Outcome.bind_eq_ok hs
    cases hs
    exact quickAddTag_len h h1
  | remove n => exact removeTag_len h hs
  | setSsid d => exact setTag_len h hs
  | setChannel c => exact setTag_len h hs
  | check n =>
    obtain ⟨c, _, hs⟩ := Outcome.bind_eq_ok hs
    cases hs; exact h

/-- **Edits keep objects well formed**: whenever a tag edit (`libwifi_quick_add_tag`,
`libwifi_remove_tag`, the SSID / channel setters, `libwifi_check_tag`),
`libwifi_add_action_detail` or `libwifi_free_action_detail` returns (with any return value) on a
well-formed object — whatever its octets — the object afterwards is well formed. -/
theorem edit_wf (o o' : GObj) (ed : GEdit) (r : Int) (w : WF o) (h : o.edit ed = .ok (r, o')) : WF o' := by
  cases ed with
  | tag op =>
    unfold GObj.edit at h
    simp only at h
    split at h
    · rename_i r1 t hst
      cases h
      exact ⟨w.fc, w.sized, w.det, fun ht => stepTag_len (w.tags ht) hst⟩
    · cases h
    · cases h
  | detail d =>
    change (if d.length = 0 then _ else if d.length > 255 - o.detailLen then _ else _) = _ at h
    by_cases hz : d.length = 0
    · rw [if_pos hz] at h
      cases h; exact w
    · rw [if_neg hz] at h
      by_cases hfit : d.length > 255 - o.detailLen
      · rw [if_pos hfit] at h
        cases h; exact w
      · rw [if_neg hfit] at h
        cases h
        refine ⟨w.fc, w.sized, fun ha => ?_, w.tags⟩
        rw [List.length_append, List.length_take_of_le (w.det ha)]
        exact Nat.le_refl _
  | freeDetail =>
    unfold GObj.edit at h
    cases h
    exact ⟨w.fc, w.sized, fun _ => Nat.le_refl _, w.tags⟩

/-- **Created objects are well formed**: whatever `libwifi_create_<kind>` returns — for ALL
arguments (no bound on the SSID) and any return value — the object it leaves is well formed. -/
theorem create_wf (k : GKind) (a : GArgs) (r : Int) (o : GObj) (h : create k a = .ok (r, o)) : WF o := by
  obtain ⟨r', o', h', g, -⟩ := C03.good_create_any k a
  cases h.symm.trans h'
  exact good_wf g

/-- what a caller can do to an object between creation and serialisation: call an edit function,
or store into the flag octet of the header -/
inductive Act
  | edit (e : GEdit)
  | flags (n : Nat)

/-- run a sequence of caller actions; an edit that reports an error leaves the object as it was
(as in the harness), a fault stops the run -/
def runActs : GObj → List Act → Outcome GObj
  | o, [] => .ok o
  | o, .flags n :: as => runActs (setFcFlags o n) as
  | o, .edit e :: as =>
    match o.edit e with
    | .ok (_, o') => runActs o' as
    | .err _ => runActs o as
    | .fault f => .fault f

theorem runActs_wf (acts : List Act) (o o' : GObj) (w : WF o) (h : runActs o acts = .ok o') : WF o' := by
  induction acts generalizing o with
  | nil => injection h with h; subst h; exact w
  | cons act acts ih =>
    cases act with
    | flags n => exact ih _ (setFcFlags_wf o n w) h
    | edit e =>
      unfold runActs at h
      split at h
      · rename_i r o1 he
        exact ih _ (edit_wf o o1 e r w he) h
      · exact ih _ w h
      · cases h

/-- **C07 (dump, everything a caller can reach)** create an object with any arguments, then apply
ANY sequence of edit calls and stores into the flag octet, in any order: for every buffer,
`libwifi_dump_<kind>` on the result either returns `-EINVAL` leaving the buffer untouched (exactly
when the buffer is shorter than `libwifi_get_<kind>_length`), or returns that length with a buffer
of the same size that starts with the encoding and is unchanged from that index on. -/
theorem C07_dump_reachable (k : GKind) (a : GArgs) (r : Int) (o0 o : GObj) (acts : List Act)
    (hc : create k a = .ok (r, o0)) (hr : runActs o0 acts = .ok o) (buf : Bytes) :
    (buf.length < o.length ∧ dumpInto o buf = .ok (-EINVAL, buf)) ∨
    (o.length ≤ buf.length ∧ ∃ e buf', o.encoding = .ok e ∧ e.length = o.length ∧
      dumpInto o buf = .ok ((o.length : Nat), buf') ∧ buf'.length = buf.length ∧ buf'.take o.length = e ∧
      ∀ i, o.length ≤ i → buf'[i]? = buf[i]?) :=
  C07_dump_any_cases o (runActs_wf acts o0 o (create_wf k a r o0 hc) hr) buf

/-! A beacon (SSID "AB", channel 6): the created object is well formed, differs from the Spec frame once
the caller has set the flag octet to 0x80, and `libwifi_dump_beacon` into a 64-octet buffer then
returns 43, puts 0x80 at index 1 and leaves the last 21 octets as they were; a 42-octet buffer is
refused untouched.  Evaluated on the model itself, independently of the theorems; the theorems'
hypotheses hold for the same object. -/

def exArgs : GArgs := { ssid := [0x41, 0x42], ch := 6, clk := ⟨5, 1000⟩ }

def exFrame : Bytes :=
  [0x80, 0x80, 0, 0] ++ List.replicate 18 0 ++ [0, 0, 0x41, 0x4b, 0x4c, 0, 0, 0, 0, 0, 0x64, 0, 1, 0, 0, 2, 0x41, 0x42, 3, 1, 6]

/-- the object of a successful `libwifi_create_<kind>` call (so that the checks below are decidable) -/
def created (k : GKind) (a : GArgs) : Option GObj :=
  match create k a with
  | .ok (r, o) => if r = 0 then some o else none
  | _ => none

theorem created_spec (k : GKind) (a : GArgs) (o : GObj) (h : o ∈ created k a) : create k a = .ok (0, o) := by
  unfold created at h
  split at h
  · rename_i r o1 hc
    split at h
    · rename_i hr
      cases h
      rw [hc, hr]
    · cases h
  · cases h

example : ∃ o, o ∈ created .beacon exArgs ∧ WF o ∧ WF (setFcFlags o 128) ∧
    (setFcFlags o 128).length = 43 ∧
    (setFcFlags o 128).encoding ≠ o.encoding ∧
    dumpInto (setFcFlags o 128) (List.replicate 64 0xA5) = .ok (43, exFrame ++ List.replicate 21 0xA5) ∧
    (exFrame ++ List.replicate 21 0xA5)[1]? = some 0x80 ∧
    (exFrame ++ List.replicate 21 0xA5).drop 43 = (List.replicate 64 0xA5).drop 43 ∧
    dumpInto (setFcFlags o 128) (List.replicate 42 0xA5) = .ok (-EINVAL, List.replicate 42 0xA5) := by
  decide +kernel

/-- store, then an edit (the order the harness uses), then another store: the run succeeds, the
result is well formed, carries the last stored value and reports 47 octets -/
example : ∃ o, o ∈ created .beacon exArgs ∧
    (match runActs o [.flags 128, .edit (.tag (.add 221 [1, 2])), .flags 1] with
      | .ok o' => decide (WF o' ∧ o'.length = 47 ∧ o'.fc = [0x80, 1])
      | _ => false) = true := by
  decide +kernel

/-- `C07_dump_fcflags` applies to that object: for EVERY buffer the dump is refused below 43 octets
and otherwise writes `exFrame` — the Spec frame with 0x80 in octet 1 — and keeps the rest -/
example : ∃ o, create .beacon exArgs = .ok (0, o) ∧ ∀ buf : Bytes,
    dumpInto (setFcFlags o 128) buf =
      if buf.length < 43 then .ok (-EINVAL, buf) else .ok (43, exFrame ++ buf.drop 43) := by
  obtain ⟨o, h, g⟩ := C03.good_create .beacon exArgs (by decide +kernel)
  refine ⟨o, h, fun buf => ?_⟩
  have hf : Spec.frame (C03.sk .beacon) (C03.sa exArgs) (Spec.initialElems (C03.sk .beacon) (C03.sa exArgs)) []
      = exFrame.set 1 0 := by decide +kernel
  have h1 : (exFrame.set 1 0).length = 43 := by decide +kernel
  have h2 : (exFrame.set 1 0).set 1 (UInt8.ofNat 128) = exFrame := by decide +kernel
  rw [C07_dump_fcflags _ _ _ _ _ g 128 buf, hf, h1, h2]
  rfl

end LWV.Props.C07Any
