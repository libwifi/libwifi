import LWV.Props.C09
import LWV.Lemmas.RtGen
import LWV.Lemmas.RtValues
/-
C09 (full) — the model of the radiotap parser (`Model.parseRadiotapInfo`, built on the model of the
vendored iterator `rtInit` / `rtNext`) decides the declarative specification: it refuses exactly the
byte strings `Spec.rtFields` refuses, and on EVERY other one (any number of present words, namespace
resets, vendor namespaces, undefined fields, fields running past `it_len`) it returns 0 and reports the
values `Spec.rtValues` assigns (`parseRadiotapInfo_sim`).
The iterator is followed bit by bit against the Spec's walk of the present words (`Live`, `next_simG`); the
fields it hands out one after the other are those the walk places (`Reports`), and the parser's loop here and
the signal shortcut of `Props/C09Rssi.lean` are read off that sequence.
That no outcome is a fault (`Model.parseRadiotapInfo_no_fault`, at the end of the file) is a corollary.
-/
namespace LWV.Props.C09Full
open LWV LWV.Model

/-- what `struct libwifi_radiotap_info` reports, as the Spec's record: of the antenna slots only the first
`antenna_count` count -/
def valuesOf (i : RtInfo) : Spec.RtValues :=
  { length := i.length, chanFreq := i.chanFreq, chanFlags := i.chanFlags, chanCenter := i.chanCenter,
    chanBand := i.chanBand, rateRaw := i.rateRaw, signal := i.signal,
    antennas := i.antennas.take i.antennaCount, flags := i.flags, rxFlags := i.rxFlags, txFlags := i.txFlags,
    mcs := (i.mcsKnown, i.mcsFlags, i.mcsMcs), txPower := i.txPower,
    ts := (i.tsTimestamp, i.tsAccuracy, i.tsUnit, i.tsFlags), rtsRetries := i.rtsRetries,
    dataRetries := i.dataRetries }

theorem maxAnt : Gen.m_LIBWIFI_MAX_RADIOTAP_ANTENNAS = 16 := by decide

theorem rd_u8 {what : String} {bs : Bytes} {i : Nat} (h : i < bs.length) :
    rd what bs i = .ok (bs.getD i 0) := rd_getD h

theorem set_last {α} (l : List α) (d : α) (h : 0 < l.length) :
    (∀ x, l.set (l.length - 1) x = l.dropLast ++ [x]) ∧ l.getLast? = some (l.getD (l.length - 1) d) := by
  have hne : l ≠ [] := by intro h'; rw [h'] at h; simp at h
  obtain ⟨l', y, rfl⟩ : ∃ l' y, l = l' ++ [y] := ⟨l.dropLast, l.getLast hne, (List.dropLast_concat_getLast hne).symm⟩
  simp

/-- the `switch (it.this_arg_index)` of `libwifi_parse_radiotap_info` is `Spec.valueStep` -/
theorem rtField_valueStep {bs : Bytes} {it : RtIt} (acc : RtInfo × Bool)
    (hlen : acc.1.antennas.length = acc.1.antennaCount) (hok : RtArgOk bs it) :
    ∃ acc', rtField bs it acc = .ok acc' ∧ acc'.1.antennas.length = acc'.1.antennaCount ∧
      (valuesOf acc'.1, acc'.2) = Spec.valueStep bs 16 (valuesOf acc.1, acc.2) ⟨it.thisArgIndex, it.thisArg⟩ := by
  obtain ⟨info, sk⟩ := acc
  simp only [] at hlen
  have htake : List.take info.antennaCount info.antennas = info.antennas := by rw [← hlen, List.take_length]
  unfold RtArgOk at hok
  unfold rtField
  -- with the index a variable, `split` rewrites `hok` in every case as well
  generalize it.thisArgIndex = k at hok ⊢
  dsimp only
  -- `split` numbers the cases in the order of the model's `match`: 3, 2, 5, 11, 1, 14, 15, 19, 10, 22, 16, 17, other
  split
  case h_13 h3 h2 h5 h11 h1 h14 h15 h19 h10 h22 h16 h17 =>
    exact ⟨_, rfl, hlen, (Spec.valueStep_other bs 16 _ ⟨k, it.thisArg⟩ ⟨h1, h2, h3, h5, h10, h11, h14, h15, h16, h17, h19, h22⟩).symm⟩
  all_goals
    have hb := hok (by decide) (by decide)
    simp only [rtSize_handled] at hb
  case h_1 =>    -- channel: band and channel number follow from the frequency
    rw [le16At_u16 (by omega), le16At_u16 (by omega)]
    refine ⟨_, rfl, hlen, ?_⟩
    simp only [valuesOf, C09.C09_band, Nat.mod_eq_of_lt (Spec.channelOf_lt _), Spec.valueStep]
  case h_3 =>    -- antenna signal: the frame's own first, then one entry per antenna while there is room
    rw [rd_getD (by omega), maxAnt]
    simp only [Outcome.bind_ok, Spec.valueStep]
    cases sk with
    | false => exact ⟨_, rfl, hlen, rfl⟩
    | true =>
      simp only [valuesOf, htake, hlen]
      by_cases hc : info.antennaCount < 16
      · simp only [hc, if_true, Bool.not_true, Bool.false_eq_true, if_false, not_true_eq_false]
        refine ⟨_, rfl, by simp only [List.length_append, List.length_cons, List.length_nil, hlen], ?_⟩
        rw [List.take_of_length_le (by rw [List.length_append, hlen]; exact Nat.le_refl _)]
        rfl
      · simp only [hc, if_false, Bool.not_true, Bool.false_eq_true, not_true_eq_false]
        exact ⟨_, rfl, hlen, by simp only [htake]⟩
  case h_4 =>    -- antenna: the number of the last per-antenna entry
    rw [rd_getD (by omega)]
    simp only [Outcome.bind_ok, Spec.valueStep, valuesOf, htake]
    by_cases hc : info.antennaCount > 0
    · obtain ⟨h1, h2⟩ := set_last info.antennas (0, 0) (by omega)
      simp only [hc, if_true, h2, setNth]
      refine ⟨_, rfl, by simp only [List.length_set, hlen], ?_⟩
      rw [List.take_of_length_le (by rw [List.length_set, hlen]; exact Nat.le_refl _), ← hlen, h1]
      rfl
    · have : info.antennas = [] := List.eq_nil_of_length_eq_zero (hlen.trans (Nat.eq_zero_of_not_pos hc))
      simp only [hc, if_false, this, List.getLast?_nil]
      exact ⟨_, rfl, hlen, by simp only [this, List.take_nil]⟩
  -- the nine fields that are stored as read
  all_goals
    simp (disch := omega) only [rd_getD, le16At_u16, le64At_u64, Outcome.bind_ok]
    exact ⟨_, rfl, hlen, by rfl⟩

theorem field_bit {b : Nat} (h : b < 29) : b ≠ 31 ∧ b ≠ 29 ∧ b ≠ 30 := by omega

theorem low_bits {b : Nat} (h : b < 31) : b < 29 ∨ b = 29 ∨ b = 30 := by omega

theorem top_bits {b : Nat} (h : ¬ b < 29) (h31 : b ≤ 31) : b = 29 ∨ b = 30 ∨ b = 31 := by omega

/-! One equation for each way a trip through the loop body of `rtNext` can go.  The two trips that report
something (`rtNext_field`, `rtNext_vendor`) take the iterator's index, argument and length through equations,
so that the caller can name them in the Spec's terms. -/

theorem rtNext_absent {bs : Bytes} {fuel : Nat} {it : RtIt} (hp : it.shifter % 2 = 0) (h31 : it.argIndex % 32 ≠ 31) :
    rtNext bs (fuel + 1) it = rtNext bs fuel (nextEntry it) := by
  rw [rtNext]
  simp [hp, h31]

theorem rtNext_end {bs : Bytes} {fuel : Nat} {it : RtIt} (hp : it.shifter % 2 = 0) (h31 : it.argIndex % 32 = 31) :
    rtNext bs (fuel + 1) it = .ok (.stop (-ENOENT)) := by
  rw [rtNext]
  simp [hp, h31]

/-- a field the library's table does not define (beyond its end, or with alignment 0 in it) ends the iteration -/
theorem rtNext_undefined {bs : Bytes} {fuel : Nat} {it : RtIt} (hp : it.shifter % 2 = 1) (hb : it.argIndex % 32 < 29)
    (hns : it.inRadiotapNs = true) (ha : rtAlign it.argIndex = 0) :
    rtNext bs (fuel + 1) it = .ok (.stop (-ENOENT)) := by
  rw [rtNext]
  obtain ⟨h1, h2, h3⟩ := field_bit hb
  by_cases hN : Gen.rtapNBits ≤ it.argIndex <;> simp [hp, h1, h2, h3, hns, hN, ha]

/-- in a vendor namespace (none is registered) a present field is skipped: the argument pointer is
moved to the end of the namespace's data -/
theorem rtNext_giveup {bs : Bytes} {fuel : Nat} {it : RtIt} (hp : it.shifter % 2 = 1) (hb : it.argIndex % 32 < 29)
    (h : it.inRadiotapNs = false) :
    rtNext bs (fuel + 1) it = rtNext bs fuel (nextEntry { it with arg := it.nextNsData, inRadiotapNs := false }) := by
  rw [rtNext]
  obtain ⟨h1, h2, h3⟩ := field_bit hb
  simp [hp, h1, h2, h3, h]

theorem rtNext_field {bs : Bytes} {fuel : Nat} {it : RtIt} {k o L : Nat} (hk : it.argIndex = k) (ho : it.arg = o)
    (hL : it.maxLength = L) (hp : it.shifter % 2 = 1) (hb : it.argIndex % 32 < 29) (hns : it.inRadiotapNs = true)
    (ha : rtAlign k ≠ 0) :
    rtNext bs (fuel + 1) it =
      if Spec.alignUp o (rtAlign k) + rtSize k > L then .ok (.stop (-EINVAL))
      else .ok (.hit (nextEntry { it with thisArgIndex := k, thisArg := Spec.alignUp o (rtAlign k), thisArgSize := rtSize k,
                                          arg := Spec.alignUp o (rtAlign k) + rtSize k })) := by
  subst hk ho hL
  rw [rtNext]
  obtain ⟨h1, h2, h3⟩ := field_bit hb
  have hn : ¬ (Gen.rtapNBits ≤ it.argIndex) := Nat.not_le.2 (rtAlign_lt ha)
  rw [alignUp_eq it.arg _ (Nat.pos_of_ne_zero ha)]
  simp [hp, h1, h2, h3, hns, hn, ha]

theorem rtNext_ns29 {bs : Bytes} {fuel : Nat} {it : RtIt} (hp : it.shifter % 2 = 1) (hb : it.argIndex % 32 = 29)
    (hfit : it.arg ≤ it.maxLength) :
    rtNext bs (fuel + 1) it =
      rtNext bs fuel (nextEntry { it with thisArgIndex := it.argIndex, thisArg := it.arg, thisArgSize := 0,
                                          resetOnExt := true, inRadiotapNs := true }) := by
  rw [rtNext]
  have : ¬ (it.maxLength < it.arg) := Nat.not_lt.2 hfit
  simp [hp, hb, Nat.mod_one, this]

theorem rtNext_load {bs : Bytes} {fuel : Nat} {it : RtIt} (hp : it.shifter % 2 = 1) (hb : it.argIndex % 32 = 31)
    (hfit : it.arg ≤ it.maxLength) :
    rtNext bs (fuel + 1) it = (do
      let w ← le32At "radiotap" bs it.nextBitmap
      rtNext bs fuel { it with thisArgIndex := it.argIndex, thisArg := it.arg, thisArgSize := 0, shifter := w,
                               nextBitmap := it.nextBitmap + 4,
                               argIndex := if it.resetOnExt then 0 else it.argIndex + 1, resetOnExt := false }) := by
  rw [rtNext]
  have : ¬ (it.maxLength < it.arg) := Nat.not_lt.2 hfit
  simp [hp, hb, Nat.mod_one, this]

theorem rtNext_vendor {bs : Bytes} {fuel : Nat} {it : RtIt} {o L : Nat} (ho : it.arg = o) (hL : it.maxLength = L)
    (hp : it.shifter % 2 = 1) (hb : it.argIndex % 32 = 30) :
    rtNext bs (fuel + 1) it =
      if Spec.alignUp o 2 + 6 > L then .ok (.stop (-EINVAL))
      else (do
        let vnslen ← le16At "radiotap" bs (Spec.alignUp o 2 + 4)
        if Spec.alignUp o 2 + (6 + vnslen) > L then .ok (.stop (-EINVAL))
        else .ok (.hit (nextEntry { it with nextNsData := Spec.alignUp o 2 + 6 + vnslen, inRadiotapNs := false,
                                            thisArgIndex := 30, thisArg := Spec.alignUp o 2,
                                            thisArgSize := 6 + vnslen, arg := Spec.alignUp o 2 + (6 + vnslen),
                                            resetOnExt := true }))) := by
  subst ho hL
  rw [rtNext, alignUp_eq it.arg 2 (by decide)]
  simp [hp, hb]

theorem placeBits_absent (itLen w n b : Nat) (st : Spec.Walk) (h : w.testBit b = false)
    (hs : st.stopped = false) (hb : st.bad = false) :
    Spec.placeBits itLen w (n + 1) b st = Spec.placeBits itLen w n (b + 1) st := by
  rw [Spec.placeBits]
  simp [h, hs, hb]

theorem placeBits_done {itLen w n b : Nat} {st : Spec.Walk} (h : (st.stopped || st.bad) = true) :
    Spec.placeBits itLen w n b st = st := by
  cases n with
  | zero => rfl
  | succ n => rw [Spec.placeBits]; simp only [h, if_true]

theorem placeBits_rt (itLen w n b : Nat) (st : Spec.Walk) (h : w.testBit b = true)
    (hs : st.stopped = false) (hb : st.bad = false) (hns : st.ns = .radiotap) :
    Spec.placeBits itLen w (n + 1) b st =
      if rtAlign (st.base + b) ≠ 0 then
        if Spec.alignUp st.off (rtAlign (st.base + b)) + rtSize (st.base + b) > itLen then { st with bad := true }
        else Spec.placeBits itLen w n (b + 1)
          { st with off := Spec.alignUp st.off (rtAlign (st.base + b)) + rtSize (st.base + b),
                    fields := st.fields ++ [⟨st.base + b, Spec.alignUp st.off (rtAlign (st.base + b))⟩] }
      else { st with stopped := true } := by
  rw [Spec.placeBits, rtTable_find?]
  simp only [h, hs, hb, hns, Bool.or_self, Bool.false_eq_true, if_false, if_true]
  by_cases hc : rtAlign (st.base + b) = 0
  · rw [rtRow_none hc, if_neg (not_not_intro hc)]
  · rw [rtRow_some hc, if_pos hc]

/-- the fields the Spec's walk places on the present words `ws`: the second component of `Spec.rtFields` -/
def walkFields (bs : Bytes) (itLen : Nat) (ws : List Nat) : List Spec.RtField :=
  (ws.foldl (fun st w => Spec.walkWord bs itLen w st) ⟨4 + 4 * ws.length, .radiotap, 0, [], false, false⟩).fields

theorem rtFields_some {bs : Bytes} {itLen : Nat} {fields : List Spec.RtField}
    (h : Spec.rtFields bs = some (itLen, fields)) :
    8 ≤ bs.length ∧ Spec.u8 bs 0 = 0 ∧ itLen = Spec.u16 bs 2 ∧ 8 ≤ itLen ∧ itLen ≤ bs.length ∧ itLen ≤ 255 ∧
      ∃ ws, Spec.presentWords bs itLen 64 4 = some ws ∧ fields = walkFields bs itLen ws := by
  unfold Spec.rtFields at h
  by_cases h8 : bs.length < 8
  · rw [if_pos h8] at h; cases h
  rw [if_neg h8] at h
  simp only [] at h
  split at h
  · cases h
  split at h
  · cases h
  rename_i hc _ ws hws
  cases h
  obtain ⟨h0, hc⟩ := not_or.1 hc
  obtain ⟨hlt, hc⟩ := not_or.1 hc
  obtain ⟨hle, h255⟩ := not_or.1 hc
  exact ⟨Nat.le_of_not_lt h8, Decidable.not_not.1 h0, rfl, Nat.le_of_not_lt hlt, Nat.le_of_not_gt hle,
    Nat.le_of_not_gt h255, ws, hws, rfl⟩

/-- the words still to come after `w`: the Spec's chain continues at `nb`, where the iterator loads from next -/
def Rest (bs : Bytes) (itLen w nb : Nat) (rest : List Nat) : Prop :=
  if w.testBit 31 then ∃ f, Spec.presentWords bs itLen f nb = some rest else rest = []

theorem presentWords_cons {bs : Bytes} {itLen f off : Nat} {ws : List Nat}
    (h : Spec.presentWords bs itLen f off = some ws) :
    off + 4 ≤ itLen ∧ ∃ rest, ws = Spec.u32 bs off :: rest ∧ Rest bs itLen (Spec.u32 bs off) (off + 4) rest := by
  obtain _ | f := f
  · cases h
  rw [Spec.presentWords] at h
  by_cases hfit : off + 4 > itLen
  · rw [if_pos hfit] at h; cases h
  rw [if_neg hfit] at h
  refine ⟨Nat.le_of_not_gt hfit, ?_⟩
  unfold Rest
  by_cases hb : (Spec.u32 bs off).testBit 31 = true
  · simp only [hb, if_true] at h ⊢
    obtain ⟨ws', hr, rfl⟩ := Option.map_eq_some_iff.1 h
    exact ⟨ws', rfl, f, hr⟩
  · simp only [hb, Bool.false_eq_true, if_false] at h ⊢
    cases h; exact ⟨[], rfl, rfl⟩

theorem Rest.next {bs : Bytes} {itLen w nb : Nat} {rest : List Nat} (h : Rest bs itLen w nb rest)
    (h31 : w.testBit 31 = true) :
    nb + 4 ≤ itLen ∧ ∃ rest', rest = Spec.u32 bs nb :: rest' ∧ Rest bs itLen (Spec.u32 bs nb) (nb + 4) rest' := by
  unfold Rest at h
  rw [if_pos h31] at h
  exact h.elim fun _ => presentWords_cons

theorem Rest.last {bs : Bytes} {itLen w nb : Nat} {rest : List Nat} (h : Rest bs itLen w nb rest)
    (h31 : w.testBit 31 = false) : rest = [] := by
  unfold Rest at h
  rwa [h31, if_neg Bool.false_ne_true] at h

theorem words_succ {nb n itLen : Nat} (h : nb + 4 + 4 * n ≤ itLen) : nb + 4 * (n + 1) ≤ itLen :=
  C09.word_step nb n ▸ h

theorem Rest.len {bs : Bytes} {itLen : Nat} : ∀ (rest : List Nat) {w nb : Nat}, Rest bs itLen w nb rest → nb ≤ itLen →
    nb + 4 * rest.length ≤ itLen := by
  intro rest
  induction rest with
  | nil => exact fun _ h => h
  | cons _ rest ih =>
    intro w nb hr _
    by_cases h31 : w.testBit 31 = true
    · obtain ⟨hfit, rest', hc, hr'⟩ := hr.next h31
      cases hc
      exact words_succ (ih hr' hfit)
    · cases hr.last (Bool.eq_false_iff.2 h31)

theorem presentWords_len {bs : Bytes} {itLen f off : Nat} {ws : List Nat}
    (h : Spec.presentWords bs itLen f off = some ws) : off + 4 * ws.length ≤ itLen := by
  obtain ⟨hfit, rest, rfl, hr⟩ := presentWords_cons h
  exact words_succ (hr.len rest hfit)

/-! `Spec.walkWord` treats bits 0..28, bit 29, bit 30 and the end of a word in one body.  `finish` is what is
left of it from any bit on, so that the Spec's walk can be followed at the iterator's pace, one bit per trip. -/

/-- the end of a word: numbering of the next word's fields -/
def tail31 (w : Nat) (st : Spec.Walk) : Spec.Walk :=
  { st with base := if w.testBit 30 then 0 else if w.testBit 29 then 0 else st.base + 32 }

/-- bit 30 of a word: a vendor namespace descriptor follows the word's fields -/
def tail30 (bs : Bytes) (itLen w : Nat) (st : Spec.Walk) : Spec.Walk :=
  if w.testBit 30 then
    if Spec.alignUp st.off 2 + 6 > itLen then { st with bad := true }
    else if Spec.alignUp st.off 2 + 6 + Spec.u16 bs (Spec.alignUp st.off 2 + 4) > itLen then { st with bad := true }
    else tail31 w { st with off := Spec.alignUp st.off 2 + 6 + Spec.u16 bs (Spec.alignUp st.off 2 + 4), ns := .vendor }
  else tail31 w st

/-- bit 29 of a word: back to the radiotap namespace -/
def tail29 (bs : Bytes) (itLen w : Nat) (st : Spec.Walk) : Spec.Walk :=
  tail30 bs itLen w (if w.testBit 29 then { st with ns := .radiotap } else st)

theorem walkWord_eq (bs : Bytes) (itLen w : Nat) (st : Spec.Walk) :
    Spec.walkWord bs itLen w st =
      if ((Spec.placeBits itLen w 29 0 st).stopped || (Spec.placeBits itLen w 29 0 st).bad) = true
      then Spec.placeBits itLen w 29 0 st else tail29 bs itLen w (Spec.placeBits itLen w 29 0 st) := by
  unfold Spec.walkWord tail29 tail30 tail31
  generalize Spec.placeBits itLen w 29 0 st = p
  cases w.testBit 30
  · simp only [Bool.false_eq_true, if_false]
  · simp only [if_true]

theorem ite_fields {c : Prop} [Decidable c] {a b : Spec.Walk} {fs : List Spec.RtField} (ha : a.fields = fs)
    (hb : b.fields = fs) : (if c then a else b).fields = fs := by
  rw [apply_ite Spec.Walk.fields, ha, hb, ite_self]

theorem tail30_fields {bs : Bytes} {itLen w : Nat} {st : Spec.Walk} : (tail30 bs itLen w st).fields = st.fields :=
  ite_fields (ite_fields rfl (ite_fields rfl rfl)) rfl

theorem tail29_fields {bs : Bytes} {itLen w : Nat} {st : Spec.Walk} : (tail29 bs itLen w st).fields = st.fields :=
  tail30_fields.trans (ite_fields rfl rfl)

theorem walkWord_fields (bs : Bytes) (itLen w : Nat) (st : Spec.Walk) :
    (Spec.walkWord bs itLen w st).fields = (Spec.placeBits itLen w 29 0 st).fields := by
  rw [walkWord_eq]
  split
  · rfl
  · exact tail29_fields

/-- what remains of the walk of the ONE word `w` from bit `b` on (`b = 30`: after the bit-29 switch,
`b = 31`: after the vendor descriptor) -/
def finish (bs : Bytes) (itLen w b : Nat) (st : Spec.Walk) : Spec.Walk :=
  if b ≤ 29 then
    if ((Spec.placeBits itLen w (29 - b) b st).stopped || (Spec.placeBits itLen w (29 - b) b st).bad) = true
    then Spec.placeBits itLen w (29 - b) b st else tail29 bs itLen w (Spec.placeBits itLen w (29 - b) b st)
  else if b = 30 then tail30 bs itLen w st
  else tail31 w st

/-- the final state of the Spec's WHOLE walk, from bit `b` of word `w` with the words `rest` still to come -/
def fin (bs : Bytes) (itLen w : Nat) (rest : List Nat) (b : Nat) (st : Spec.Walk) : Spec.Walk :=
  rest.foldl (fun st w => Spec.walkWord bs itLen w st) (finish bs itLen w b st)

theorem walkWord_finish (bs : Bytes) (itLen w : Nat) (st : Spec.Walk) :
    Spec.walkWord bs itLen w st = finish bs itLen w 0 st := by
  rw [walkWord_eq]; rfl

theorem walkWord_done {bs : Bytes} {itLen w : Nat} {st : Spec.Walk} (h : (st.stopped || st.bad) = true) :
    Spec.walkWord bs itLen w st = st := by
  rw [walkWord_eq, placeBits_done h, if_pos h]

theorem walk_done {bs : Bytes} {itLen : Nat} {rest : List Nat} {st : Spec.Walk} (h : (st.stopped || st.bad) = true) :
    rest.foldl (fun st w => Spec.walkWord bs itLen w st) st = st := by
  induction rest with
  | nil => rfl
  | cons w rest ih => rw [List.foldl_cons, walkWord_done h, ih]

theorem bits_left {b : Nat} (hb : b < 29) : 29 - b = 29 - (b + 1) + 1 :=
  (Nat.sub_one_add_one_eq_of_pos (Nat.sub_pos_of_lt hb)).symm

theorem finish_vendor (bs : Bytes) (itLen : Nat) {w b : Nat} {st : Spec.Walk} (hb : b < 29) (h : w.testBit b = true)
    (hs : st.stopped = false) (hbad : st.bad = false) (hns : st.ns = .vendor) :
    finish bs itLen w b st = finish bs itLen w (b + 1) st := by
  unfold finish
  rw [if_pos (Nat.le_of_lt hb), if_pos (Nat.succ_le_of_lt hb), bits_left hb]
  rw [Spec.placeBits]
  simp [h, hs, hbad, hns]

theorem finish_rt (bs : Bytes) (itLen : Nat) {w b : Nat} {st : Spec.Walk} (hb : b < 29) (h : w.testBit b = true)
    (hs : st.stopped = false) (hbad : st.bad = false) (hns : st.ns = .radiotap) :
    finish bs itLen w b st =
      if rtAlign (st.base + b) ≠ 0 then
        if Spec.alignUp st.off (rtAlign (st.base + b)) + rtSize (st.base + b) > itLen then { st with bad := true }
        else finish bs itLen w (b + 1)
          { st with off := Spec.alignUp st.off (rtAlign (st.base + b)) + rtSize (st.base + b),
                    fields := st.fields ++ [⟨st.base + b, Spec.alignUp st.off (rtAlign (st.base + b))⟩] }
      else { st with stopped := true } := by
  unfold finish
  rw [if_pos (Nat.le_of_lt hb), if_pos (Nat.succ_le_of_lt hb), bits_left hb,
    placeBits_rt _ _ _ _ _ h hs hbad hns]
  by_cases ha : rtAlign (st.base + b) = 0
  · simp only [ha, ne_eq, not_true_eq_false, if_false, Bool.true_or, if_true]
  · simp only [ha, ne_eq, not_false_eq_true, if_true]
    by_cases hfit : Spec.alignUp st.off (rtAlign (st.base + b)) + rtSize (st.base + b) > itLen
    · simp only [hfit, if_true, Bool.or_true]
    · simp only [hfit, if_false]

theorem finish_29 (bs : Bytes) (itLen w : Nat) {st : Spec.Walk} (hs : st.stopped = false) (hbad : st.bad = false) :
    finish bs itLen w 29 st = finish bs itLen w 30 (if w.testBit 29 then { st with ns := .radiotap } else st) := by
  unfold finish
  simp [Spec.placeBits, hs, hbad, tail29]

theorem finish_30 (bs : Bytes) (itLen w : Nat) (st : Spec.Walk) :
    finish bs itLen w 30 st =
      if w.testBit 30 then
        if Spec.alignUp st.off 2 + 6 > itLen then { st with bad := true }
        else if Spec.alignUp st.off 2 + 6 + Spec.u16 bs (Spec.alignUp st.off 2 + 4) > itLen then { st with bad := true }
        else finish bs itLen w 31
          { st with off := Spec.alignUp st.off 2 + 6 + Spec.u16 bs (Spec.alignUp st.off 2 + 4), ns := .vendor }
      else finish bs itLen w 31 st := by
  unfold finish
  simp [tail30]

theorem finish_absent (bs : Bytes) (itLen : Nat) {w b : Nat} {st : Spec.Walk} (hb : b < 31) (h : w.testBit b = false)
    (hs : st.stopped = false) (hbad : st.bad = false) : finish bs itLen w b st = finish bs itLen w (b + 1) st := by
  rcases low_bits hb with hb | rfl | rfl
  · unfold finish
    rw [if_pos (Nat.le_of_lt hb), if_pos (Nat.succ_le_of_lt hb), bits_left hb,
      placeBits_absent _ _ _ _ _ h hs hbad]
  · rw [finish_29 bs itLen w hs hbad, h]; rfl
  · rw [finish_30, h]; rfl

theorem fin_31 (bs : Bytes) (itLen w w' : Nat) (rest : List Nat) (st : Spec.Walk) :
    fin bs itLen w (w' :: rest) 31 st = fin bs itLen w' rest 0 (tail31 w st) := by
  unfold fin
  rw [List.foldl_cons, walkWord_finish]
  simp [finish]

/-- the iterator stands before bit `b` of word `w`; `st` is the Spec's walk state at that point -/
structure Live (bs : Bytes) (itLen w : Nat) (rest : List Nat) (it : RtIt) (st : Spec.Walk) (b : Nat) : Prop where
  ml : it.maxLength = itLen
  le : itLen ≤ bs.length
  arg : it.arg = st.off
  fit : st.off ≤ itLen
  ns : it.inRadiotapNs = decide (st.ns = .radiotap)
  vns : st.ns = .vendor → it.nextNsData = st.off
  idx : it.argIndex = st.base + b
  base : st.base % 32 = 0
  b31 : b ≤ 31
  sh : it.shifter = w / 2 ^ b
  live : st.stopped = false
  good : st.bad = false
  /-- the reset flag is up exactly when bit 29 or bit 30 of this word is set and lies behind the iterator -/
  rst : it.resetOnExt = (decide (29 < b) && w.testBit 29 || decide (30 < b) && w.testBit 30)
  rest : Rest bs itLen w it.nextBitmap rest

/-- the measure of the simulation: the trips through the loop body of `rtNext` still possible -/
def mu (rest : List Nat) (b : Nat) : Nat := 32 * rest.length + (32 - b)

theorem mu_pos (rest : List Nat) {b : Nat} (hb : b ≤ 31) : 0 < mu rest b :=
  Nat.add_pos_right _ (Nat.sub_pos_of_lt (Nat.lt_succ_of_le hb))

theorem mu_succ_lt (rest : List Nat) {b : Nat} (hb : b ≤ 31) : mu rest (b + 1) < mu rest b :=
  Nat.add_lt_add_left (Nat.sub_succ_lt_self 32 b (Nat.lt_succ_of_le hb)) _

theorem mu_cons_lt (w : Nat) (rest : List Nat) : mu rest 0 < mu (w :: rest) 31 := by
  unfold mu
  rw [List.length_cons, Nat.mul_succ]
  exact Nat.lt_succ_self _

/-- what a call of `rtNext` does, in the Spec's terms: the next field (or vendor descriptor) with the walk
advanced past it, or the end with no further field -/
def NextG (bs : Bytes) (itLen : Nat) (st : Spec.Walk) (b w : Nat) (rest : List Nat) (r : Outcome RtNext) : Prop :=
  (∃ it' st' b' w' rest', r = .ok (.hit it') ∧ Live bs itLen w' rest' it' st' b' ∧ mu rest' b' < mu rest b ∧
      fin bs itLen w rest b st = fin bs itLen w' rest' b' st' ∧
      ((it'.thisArgIndex = 30 ∧ st'.fields = st.fields) ∨
       (it'.thisArg + rtSize it'.thisArgIndex ≤ itLen ∧ st'.fields = st.fields ++ [⟨it'.thisArgIndex, it'.thisArg⟩]))) ∨
  (∃ c, r = .ok (.stop c) ∧ (fin bs itLen w rest b st).fields = st.fields)

theorem NextG.trip {bs : Bytes} {itLen : Nat} {st st1 : Spec.Walk} {b b1 w w1 : Nat} {rest rest1 : List Nat}
    {r : Outcome RtNext} (h : NextG bs itLen st1 b1 w1 rest1 r) (hmu : mu rest1 b1 < mu rest b)
    (hfin : fin bs itLen w rest b st = fin bs itLen w1 rest1 b1 st1) (hf : st1.fields = st.fields) :
    NextG bs itLen st b w rest r := by
  rcases h with ⟨it', st', b', w', rest', h1, h2, h3, h4, h5⟩ | ⟨c, h1, h2⟩
  · exact Or.inl ⟨it', st', b', w', rest', h1, h2, Nat.lt_trans h3 hmu, by rw [hfin, h4], by rw [← hf]; exact h5⟩
  · exact Or.inr ⟨c, h1, by rw [hfin, h2, hf]⟩

theorem NextG.stop {bs : Bytes} {itLen w : Nat} {rest : List Nat} {b : Nat} {st x : Spec.Walk} {c : Int}
    (h : finish bs itLen w b st = x) (hx : (x.stopped || x.bad) = true) (hf : x.fields = st.fields := by rfl) :
    NextG bs itLen st b w rest (.ok (.stop c)) := by
  refine Or.inr ⟨c, rfl, ?_⟩
  unfold fin
  rw [h, walk_done hx, hf]

theorem rst_succ (w : Nat) {b : Nat} (hb : b < 31) :
    (decide (29 < b) && w.testBit 29 || decide (30 < b) && w.testBit 30 || decide (29 ≤ b) && w.testBit b) =
      (decide (29 < b + 1) && w.testBit 29 || decide (30 < b + 1) && w.testBit 30) := by
  rcases low_bits hb with h | rfl | rfl
  · simp [show ¬ 29 ≤ b ∧ ¬ 29 < b ∧ ¬ 30 < b ∧ ¬ 29 < b + 1 ∧ ¬ 30 < b + 1 by omega]
  · simp
  · simp

section
variable {bs : Bytes} {itLen w : Nat} {rest : List Nat} {it : RtIt} {st : Spec.Walk} {b : Nat}

theorem Live.bit (hl : Live bs itLen w rest it st b) : it.argIndex % 32 = b := by
  rw [hl.idx, Nat.add_mod, hl.base, Nat.zero_add, Nat.mod_mod, Nat.mod_eq_of_lt (Nat.lt_succ_of_le hl.b31)]

theorem Live.present (hl : Live bs itLen w rest it st b) : it.shifter % 2 = 1 ↔ w.testBit b = true := by
  rw [Nat.testBit_eq_decide_div_mod_eq, hl.sh, decide_eq_true_eq]

/-- one bit further inside the same present word: what the trips of `rtNext` that do not load a word have
in common.  At every use `it'` is `nextEntry` of an update of `it` and `st'` an update of `st`, so the
hypotheses that come with a default hold by `rfl`. -/
theorem Live.step (hl : Live bs itLen w rest it st b) (hb : b < 31) {it' : RtIt} {st' : Spec.Walk}
    (harg : it'.arg = st'.off) (hfit : st'.off ≤ itLen)
    (hns : it'.inRadiotapNs = decide (st'.ns = .radiotap)) (hvns : st'.ns = .vendor → it'.nextNsData = st'.off)
    (hr : it'.resetOnExt = (it.resetOnExt || (decide (29 ≤ b) && w.testBit b)))
    (hml : it'.maxLength = it.maxLength := by rfl) (hbm : it'.nextBitmap = it.nextBitmap := by rfl)
    (hidx : it'.argIndex = it.argIndex + 1 := by rfl) (hsh : it'.shifter = it.shifter / 2 := by rfl)
    (hbase : st'.base = st.base := by rfl) (hlive : st'.stopped = st.stopped := by rfl)
    (hgood : st'.bad = st.bad := by rfl) :
    Live bs itLen w rest it' st' (b + 1) where
  ml := hml.trans hl.ml
  le := hl.le
  arg := harg
  fit := hfit
  ns := hns
  vns := hvns
  idx := by rw [hidx, hl.idx, hbase, Nat.add_assoc]
  base := hbase ▸ hl.base
  b31 := hb
  sh := by rw [hsh, hl.sh, pow_shift]
  live := hlive.trans hl.live
  good := hgood.trans hl.good
  rst := by rw [hr, hl.rst, rst_succ w hb]
  rest := hbm ▸ hl.rest

/-- bit 31 set: the iterator takes the next present word, whose fields are numbered as bits 29 / 30 say -/
theorem Live.load (hl : Live bs itLen w rest it st 31) (h31 : w.testBit 31 = true) :
    it.nextBitmap + 4 ≤ itLen ∧ ∃ rest', rest = Spec.u32 bs it.nextBitmap :: rest' ∧
      Live bs itLen (Spec.u32 bs it.nextBitmap) rest'
        { it with thisArgIndex := it.argIndex, thisArg := it.arg, thisArgSize := 0, shifter := Spec.u32 bs it.nextBitmap,
                  nextBitmap := it.nextBitmap + 4, argIndex := if it.resetOnExt then 0 else it.argIndex + 1,
                  resetOnExt := false }
        (tail31 w st) 0 := by
  obtain ⟨hfit, rest', hc, hr⟩ := hl.rest.next h31
  refine ⟨hfit, rest', hc, ?_⟩
  exact {
    ml := hl.ml, le := hl.le, arg := hl.arg, fit := hl.fit, ns := hl.ns, vns := hl.vns
    idx := by
      rw [hl.rst, hl.idx]
      unfold tail31
      cases w.testBit 29 <;> cases w.testBit 30 <;> rfl
    base := by
      unfold tail31
      cases w.testBit 30
      · cases w.testBit 29
        · exact (Nat.add_mod_right _ _).trans hl.base
        · rfl
      · rfl
    b31 := Nat.zero_le _
    sh := (Nat.div_one _).symm
    live := hl.live, good := hl.good
    rst := rfl
    rest := hr }

theorem Live.next_field (hl : Live bs itLen w rest it st b) (hb : b < 29) (htb : w.testBit b = true)
    (hns : st.ns = .radiotap) (fuel : Nat) : NextG bs itLen st b w rest (rtNext bs (fuel + 1) it) := by
  have hp := hl.present.2 htb
  have hins : it.inRadiotapNs = true := by rw [hl.ns, hns]; rfl
  have hfin := finish_rt bs itLen hb htb hl.live hl.good hns
  by_cases ha : rtAlign (st.base + b) = 0
  · rw [rtNext_undefined hp (hl.bit ▸ hb) hins (hl.idx ▸ ha)]
    rw [if_neg (not_not_intro ha)] at hfin
    exact .stop hfin rfl
  · rw [rtNext_field hl.idx hl.arg hl.ml hp (hl.bit ▸ hb) hins ha]
    rw [if_pos ha] at hfin
    by_cases hfit : Spec.alignUp st.off (rtAlign (st.base + b)) + rtSize (st.base + b) > itLen
    · rw [if_pos hfit] at hfin ⊢
      exact .stop hfin (Bool.or_true _)
    · rw [if_neg hfit] at hfin ⊢
      exact Or.inl ⟨_, { st with off := Spec.alignUp st.off (rtAlign (st.base + b)) + rtSize (st.base + b),
                                 fields := st.fields ++ [⟨st.base + b, Spec.alignUp st.off (rtAlign (st.base + b))⟩] },
        b + 1, w, rest, rfl,
        hl.step (Nat.lt_trans hb (by decide)) rfl (Nat.le_of_not_gt hfit) hl.ns (fun h => by rw [hns] at h; cases h)
          (by simp [nextEntry, Nat.not_le.2 hb]),
        mu_succ_lt rest hl.b31, by unfold fin; rw [hfin], Or.inr ⟨Nat.le_of_not_gt hfit, rfl⟩⟩

theorem Live.next_vendor (hl : Live bs itLen w rest it st 30) (htb : w.testBit 30 = true) (fuel : Nat) :
    NextG bs itLen st 30 w rest (rtNext bs (fuel + 1) it) := by
  have hfin := finish_30 bs itLen w st
  rw [htb, if_pos rfl] at hfin
  rw [rtNext_vendor hl.arg hl.ml (hl.present.2 htb) hl.bit]
  by_cases hf1 : Spec.alignUp st.off 2 + 6 > itLen
  · rw [if_pos hf1] at hfin ⊢
    exact .stop hfin (Bool.or_true _)
  · rw [if_neg hf1] at hfin ⊢
    rw [le16At_u16 (Nat.le_trans (Nat.le_of_not_gt hf1) hl.le), Outcome.bind_ok, ← Nat.add_assoc]
    by_cases hf2 : Spec.alignUp st.off 2 + 6 + Spec.u16 bs (Spec.alignUp st.off 2 + 4) > itLen
    · rw [if_pos hf2] at hfin ⊢
      exact .stop hfin (Bool.or_true _)
    · rw [if_neg hf2] at hfin ⊢
      exact Or.inl ⟨_, { st with off := Spec.alignUp st.off 2 + 6 + Spec.u16 bs (Spec.alignUp st.off 2 + 4), ns := .vendor },
        31, w, rest, rfl,
        hl.step (by decide) rfl (Nat.le_of_not_gt hf2) rfl (fun _ => rfl) (by simp [nextEntry, htb]),
        mu_succ_lt rest hl.b31, by unfold fin; rw [hfin], Or.inl ⟨rfl, rfl⟩⟩

end

/-- from a `Live` state `rtNext` returns what the Spec's walk comes to next, within the fuel `mu` counts: a
trip that reports nothing hands over to the induction hypothesis one bit further -/
theorem next_simG (bs : Bytes) (itLen : Nat) : ∀ (fuel : Nat) (it : RtIt) (st : Spec.Walk) (b w : Nat) (rest : List Nat),
    Live bs itLen w rest it st b → mu rest b ≤ fuel → NextG bs itLen st b w rest (rtNext bs fuel it) := by
  intro fuel
  induction fuel with
  | zero => intro it st b w rest hl hmu; exact absurd (mu_pos rest hl.b31) (Nat.not_lt.2 hmu)
  | succ fuel ih =>
    intro it st b w rest hl hmu
    have hmod := hl.bit
    have silent : ∀ (it1 : RtIt) (st1 : Spec.Walk), Live bs itLen w rest it1 st1 (b + 1) →
        finish bs itLen w b st = finish bs itLen w (b + 1) st1 → st1.fields = st.fields →
        NextG bs itLen st b w rest (rtNext bs fuel it1) := fun it1 st1 h1 hfin hf =>
      (ih it1 st1 (b + 1) w rest h1 (Nat.le_of_lt_succ (Nat.lt_of_lt_of_le (mu_succ_lt rest hl.b31) hmu))).trip
        (mu_succ_lt rest hl.b31) (by unfold fin; rw [hfin]) hf
    cases htb : w.testBit b with
    | false =>
      have hp : it.shifter % 2 = 0 :=
        (Nat.mod_two_eq_zero_or_one _).resolve_right (mt hl.present.1 (by rw [htb]; exact Bool.false_ne_true))
      by_cases h31 : b = 31
      · subst h31
        rw [rtNext_end hp hmod]
        cases hl.rest.last htb
        exact Or.inr ⟨_, rfl, rfl⟩
      · have hb : b < 31 := Nat.lt_of_le_of_ne hl.b31 h31
        rw [rtNext_absent hp (hmod ▸ h31)]
        exact silent _ st
          (hl.step hb hl.arg hl.fit hl.ns hl.vns (by simp [nextEntry, htb]))
          (finish_absent bs itLen hb htb hl.live hl.good) rfl
    | true =>
      have hp := hl.present.2 htb
      by_cases hb29 : b < 29
      · have hb : b < 31 := Nat.lt_trans hb29 (by decide)
        cases hns : st.ns with
        | radiotap => exact hl.next_field hb29 htb hns fuel
        | vendor =>
          rw [rtNext_giveup hp (hmod ▸ hb29) (by rw [hl.ns, hns]; rfl)]
          exact silent _ st
            (hl.step hb (hl.vns hns) hl.fit (by rw [hns]; rfl) (fun _ => hl.vns hns)
              (by simp [nextEntry, Nat.not_le.2 hb29]))
            (finish_vendor bs itLen hb29 htb hl.live hl.good hns) rfl
      · rcases top_bits hb29 hl.b31 with rfl | rfl | rfl
        · rw [rtNext_ns29 hp hmod (hl.arg ▸ hl.ml ▸ hl.fit)]
          exact silent _ { st with ns := .radiotap }
            (hl.step (by decide) hl.arg hl.fit rfl (fun h => by cases h) (by simp [nextEntry, htb]))
            (by rw [finish_29 bs itLen w hl.live hl.good, htb]; rfl) rfl
        · exact hl.next_vendor htb fuel
        · obtain ⟨hfit, rest', rfl, hl'⟩ := hl.load htb
          rw [rtNext_load hp hmod (hl.arg ▸ hl.ml ▸ hl.fit), le32At_u32 (Nat.le_trans hfit hl.le)]
          exact (ih _ _ 0 _ rest' hl' (Nat.le_of_lt_succ (Nat.lt_of_lt_of_le (mu_cons_lt _ rest') hmu))).trip
            (mu_cons_lt _ rest') (fin_31 bs itLen w _ rest' st) rfl

/-- the bound `8 * itLen` on the measure: every present word takes 4 octets of the header and 32 trips -/
theorem live_init {bs : Bytes} {itLen f : Nat} {ws : List Nat} (hile : itLen ≤ bs.length)
    (hws : Spec.presentWords bs itLen f 4 = some ws) :
    ∃ rest, ws = Spec.u32 bs 4 :: rest ∧ mu rest 0 ≤ 8 * itLen ∧
      Live bs itLen (Spec.u32 bs 4) rest (C09.it0 itLen (Spec.u32 bs 4) (4 + 4 * ws.length))
        ⟨4 + 4 * ws.length, .radiotap, 0, [], false, false⟩ 0 := by
  obtain ⟨_, rest, hcons, hrest⟩ := presentWords_cons hws
  have hwl := presentWords_len hws
  refine ⟨rest, hcons, by unfold mu; rw [hcons, List.length_cons] at hwl; omega, ?_⟩
  exact {
    ml := rfl, le := hile, arg := rfl
    fit := hwl
    ns := rfl
    vns := fun h => by cases h
    idx := rfl, base := rfl
    b31 := Nat.zero_le _
    sh := (Nat.div_one _).symm
    live := rfl, good := rfl, rst := rfl
    rest := hrest }

/-- from `it`, at most `n` further calls of `rtNext` report the fields `more` one after the other, each inside
the buffer, with vendor namespace descriptors in between, and then the end.  `40 * (bs.length + 2)` is the fuel
`Model.rtLoop` and `Model.rssiLoop` pass to `rtNext`: the statement is about the calls those loops make. -/
inductive Reports (bs : Bytes) : Nat → RtIt → List Spec.RtField → Prop
  | stop {n it c} : rtNext bs (40 * (bs.length + 2)) it = .ok (.stop c) → Reports bs n it []
  | vendor {n it it' more} : rtNext bs (40 * (bs.length + 2)) it = .ok (.hit it') → it'.thisArgIndex = 30 →
      Reports bs n it' more → Reports bs (n + 1) it more
  | field {n it it' more} : rtNext bs (40 * (bs.length + 2)) it = .ok (.hit it') →
      it'.thisArg + rtSize it'.thisArgIndex ≤ bs.length → Reports bs n it' more →
      Reports bs (n + 1) it (⟨it'.thisArgIndex, it'.thisArg⟩ :: more)

/-- the hits `next_simG` promises one after the other are a `Reports` sequence; `n` bounds the number of calls and,
being at most the fuel the loops pass, each call's measure -/
theorem reports_of_live {bs : Bytes} {itLen : Nat} : ∀ (n : Nat) {it : RtIt} {st : Spec.Walk} {b w : Nat} {rest : List Nat},
    Live bs itLen w rest it st b → mu rest b ≤ n → n ≤ 40 * (bs.length + 2) →
    ∃ more, Reports bs n it more ∧ (fin bs itLen w rest b st).fields = st.fields ++ more := by
  intro n
  induction n with
  | zero => intro it st b w rest hl hmu; exact absurd (mu_pos rest hl.b31) (Nat.not_lt.2 hmu)
  | succ n ih =>
    intro it st b w rest hl hn hF
    rcases next_simG bs itLen _ it st b w rest hl (Nat.le_trans hn hF) with ⟨it', st', b', w', rest', h1, h2, h3, h4, h5⟩ | ⟨c, h1, h2⟩
    · obtain ⟨more, hr, hm⟩ := ih h2 (Nat.le_of_lt_succ (Nat.lt_of_lt_of_le h3 hn))
        (Nat.le_of_succ_le hF)
      rcases h5 with ⟨h30, hfs⟩ | ⟨hb, hfs⟩
      · exact ⟨more, .vendor h1 h30 hr, by rw [h4, hm, hfs]⟩
      · exact ⟨_, .field h1 (Nat.le_trans hb h2.le) hr, by rw [h4, hm, hfs, List.append_assoc]; rfl⟩
    · exact ⟨[], .stop h1, by rw [h2, List.append_nil]⟩

theorem reports_init {bs : Bytes} {itLen f : Nat} {ws : List Nat} (hile : itLen ≤ bs.length)
    (hws : Spec.presentWords bs itLen f 4 = some ws) :
    Reports bs (8 * itLen) (C09.it0 itLen (Spec.u32 bs 4) (4 + 4 * ws.length)) (walkFields bs itLen ws) := by
  obtain ⟨rest, rfl, hmu, hlive⟩ := live_init hile hws
  obtain ⟨more, hr, hm⟩ := reports_of_live (8 * itLen) hlive hmu
    (Nat.mul_le_mul (by decide) (Nat.le_trans hile (Nat.le_add_right _ _)))
  unfold walkFields
  rw [List.foldl_cons, walkWord_finish]
  unfold fin at hm
  rw [hm]
  exact hr

theorem fuel_suffices {n len : Nat} (h : n ≤ len) : 8 * n < 32 * (len + 2) :=
  Nat.mul_lt_mul_of_lt_of_le (by decide) (Nat.le_trans h (Nat.le_add_right _ _)) (Nat.succ_pos _)

theorem rtLoop_reports {bs : Bytes} : ∀ (fuel : Nat) {n : Nat} {it : RtIt} {more : List Spec.RtField},
    Reports bs n it more → ∀ (acc : RtInfo × Bool), n < fuel → RtArgOk bs it →
      acc.1.antennas.length = acc.1.antennaCount →
      ∃ info, rtLoop bs fuel it acc = .ok info ∧
        valuesOf info =
          ((⟨it.thisArgIndex, it.thisArg⟩ :: more).foldl (Spec.valueStep bs 16) (valuesOf acc.1, acc.2)).1 := by
  intro fuel
  induction fuel with
  | zero => intro n it more _ _ h; omega
  | succ fuel ih =>
    intro n it more hr acc hf hok hant
    obtain ⟨acc', hfld, hant', hval⟩ := rtField_valueStep acc hant hok
    rw [rtLoop, List.foldl_cons, ← hval]
    simp only [hfld, Outcome.bind_ok]
    cases hr with
    | stop h => rw [h]; exact ⟨_, rfl, rfl⟩
    | vendor h h30 hr' =>
      rw [h]
      obtain ⟨info, hi, hv⟩ := ih hr' acc' (Nat.lt_of_succ_lt_succ hf) (fun _ h => absurd h30 h) hant'
      refine ⟨info, hi, ?_⟩
      rw [hv, List.foldl_cons, Spec.valueStep_other]
      simp only [h30]; decide
    | field h hb hr' =>
      rw [h]
      exact ih hr' acc' (Nat.lt_of_succ_lt_succ hf) (fun _ _ => hb) hant'

/-- the parser decides `Spec.rtFields`: it refuses with `-EINVAL` exactly the headers the Spec refuses,
and on the others reports the Spec's values -/
theorem parseRadiotapInfo_sim (bs : Bytes) :
    Sim (fun info p => valuesOf info = Spec.rtValues bs p.1 p.2 Gen.m_LIBWIFI_MAX_RADIOTAP_ANTENNAS)
      (parseRadiotapInfo bs) (Spec.rtFields bs) := by
  rw [C09.parseRadiotapInfo_eq]
  unfold Spec.rtFields
  refine Sim.ite (fun _ => Sim.err) fun _ => Sim.ite (fun _ => Sim.err) fun hc => ?_
  cases hws : Spec.presentWords bs (Spec.u16 bs 2) 64 4 with
  | none => exact Sim.err
  | some ws =>
    have hle : Spec.u16 bs 2 ≤ bs.length := Nat.le_of_not_gt fun h => hc (.inr (.inr (.inl h)))
    obtain ⟨info, hi, hv⟩ := rtLoop_reports (32 * (bs.length + 2)) (reports_init hle hws)
      ({ length := Spec.u16 bs 2, present := 0 }, false) (fuel_suffices hle) (fun h => absurd rfl h) rfl
    dsimp only
    rw [hi]
    exact Sim.ok (by show valuesOf info = _; rw [hv, maxAnt]; rfl)

/-- every header the Spec accepts — several present words, namespace resets (bit 29), vendor
namespaces (bit 30), numbering continued into the next word —: the parser reports exactly the values
the Spec assigns to the fields the Spec places -/
theorem C09_decode_full (bs : Bytes) (itLen : Nat) (fields : List Spec.RtField)
    (h : Spec.rtFields bs = some (itLen, fields)) :
    ∃ info, parseRadiotapInfo bs = .ok info ∧
      valuesOf info = Spec.rtValues bs itLen fields Gen.m_LIBWIFI_MAX_RADIOTAP_ANTENNAS := by
  have hs := parseRadiotapInfo_sim bs
  rw [h] at hs
  exact hs.of_some

/-- a header with a single present word (no EXT / namespace bits) -/
theorem C09_decode_single (bs : Bytes) (itLen : Nat) (fields : List Spec.RtField)
    (h : Spec.rtFields bs = some (itLen, fields)) (_hw : Spec.u32 bs 4 < 2 ^ 29) :
    ∃ info, parseRadiotapInfo bs = .ok info ∧
      valuesOf info = Spec.rtValues bs itLen fields Gen.m_LIBWIFI_MAX_RADIOTAP_ANTENNAS :=
  C09_decode_full bs itLen fields h

theorem rtValues_length (bs : Bytes) (itLen : Nat) (fields : List Spec.RtField) (m : Nat) :
    (Spec.rtValues bs itLen fields m).length = itLen :=
  List.foldlRecOn fields (Spec.valueStep bs m) (motive := fun s => s.1.length = itLen) rfl
    fun s hs f _ => (Spec.valueStep_kept bs m s f).1.trans hs

theorem C09_decode : C09.C09_decode_statement := by
  intro bs itLen fields h
  obtain ⟨info, h1, h2⟩ := C09_decode_full bs itLen fields h
  exact ⟨info, h1, (congrArg Spec.RtValues.length h2).trans (rtValues_length ..)⟩

theorem C09_decode_statement_single : ∀ bs itLen fields, Spec.rtFields bs = some (itLen, fields) →
    Spec.u32 bs 4 < 2 ^ 29 → ∃ info, parseRadiotapInfo bs = .ok info ∧ info.length = itLen :=
  fun bs itLen fields h _ => C09_decode bs itLen fields h

/-! Headers of one present word that the Spec accepts: FLAGS | RATE | CHANNEL; an undefined field (18) in the
middle, after which nothing is decoded; a last field running past `it_len`, which is dropped. -/
example : Spec.rtFields [0, 0, 16, 0, 0x0e, 0, 0, 0, 0x12, 0, 0xa8, 0x09, 0x0a, 0, 0xc5, 0] =
    some (16, [⟨1, 8⟩, ⟨2, 9⟩, ⟨3, 10⟩]) ∧
    Spec.u32 [0, 0, 16, 0, 0x0e, 0, 0, 0, 0x12, 0, 0xa8, 0x09, 0x0a, 0, 0xc5, 0] 4 < 2 ^ 29 := by
  decide +kernel

example : Spec.rtFields [0, 0, 14, 0, 0x26, 0, 0x0c, 0, 0x12, 0x0c, 0xd0, 1, 2, 3] =
    some (14, [⟨1, 8⟩, ⟨2, 9⟩, ⟨5, 10⟩]) ∧
    Spec.u32 [0, 0, 14, 0, 0x26, 0, 0x0c, 0, 0x12, 0x0c, 0xd0, 1, 2, 3] 4 < 2 ^ 29 := by
  decide +kernel

example : Spec.rtFields [0, 0, 12, 0, 0x0a, 0, 0, 0, 0x12, 0, 0xa8, 0x09] = some (12, [⟨1, 8⟩]) ∧
    Spec.u32 [0, 0, 12, 0, 0x0a, 0, 0, 0, 0x12, 0, 0xa8, 0x09] 4 < 2 ^ 29 := by
  decide +kernel

/-! Headers of several present words: FLAGS and a vendor namespace (skip length 2), a namespace reset in the
second word, RATE in the third; and a vendor namespace, a reset, the undefined field 18 in the third word and
FLAGS in the fourth, where decoding ends at field 18 and the FLAGS bit is not followed. -/
example : Spec.rtFields [0, 0, 27, 0, 0x02, 0, 0, 0xc0, 0, 0, 0, 0xa0, 4, 0, 0, 0,
      0x12, 0, 0xaa, 0xbb, 0xcc, 1, 2, 0, 0xee, 0xee, 0x0c] = some (27, [⟨1, 16⟩, ⟨2, 26⟩]) ∧
    parseRadiotapInfo [0, 0, 27, 0, 0x02, 0, 0, 0xc0, 0, 0, 0, 0xa0, 4, 0, 0, 0,
      0x12, 0, 0xaa, 0xbb, 0xcc, 1, 2, 0, 0xee, 0xee, 0x0c] = .ok { length := 27, flags := 0x12, rateRaw := 0x0c } := by
  decide +kernel

example : Spec.rtFields [0, 0, 27, 0, 0, 0, 0, 0xc0, 0, 0, 0, 0xa0, 0, 0, 4, 0xa0, 2, 0, 0, 0,
      1, 2, 3, 4, 0, 0, 0x55] = some (27, []) ∧
    parseRadiotapInfo [0, 0, 27, 0, 0, 0, 0, 0xc0, 0, 0, 0, 0xa0, 0, 0, 4, 0xa0, 2, 0, 0, 0,
      1, 2, 3, 4, 0, 0, 0x55] = .ok { length := 27 } := by
  decide +kernel

end LWV.Props.C09Full

namespace LWV.Model
open LWV

theorem le64At_ex {what : String} {bs : Bytes} {i : Nat} (h : i + 8 ≤ bs.length) :
    ∃ v, le64At what bs i = .ok v :=
  ⟨_, le64At_u64 h⟩

/-- the iterator's initialisation reads only inside the bound it is given -/
theorem rtInit_no_fault (bs : Bytes) (n : Nat) (h : n ≤ bs.length) (f : Fault) : rtInit bs n ≠ .fault f := by
  by_cases h8 : n < 8
  · rw [Props.C09.rtInit_short h8]; exact fun h => nomatch h
  · rw [Props.C09.rtInit_eq bs n (Spec.u16 bs 2) (Nat.le_of_not_lt h8) h (by omega)]
    repeat' split
    all_goals exact fun h => nomatch h

theorem parseRadiotapInfo_no_fault (bs : Bytes) (f : Fault) : parseRadiotapInfo bs ≠ .fault f :=
  (Props.C09Full.parseRadiotapInfo_sim bs).not_fault f

end LWV.Model
