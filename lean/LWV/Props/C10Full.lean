import LWV.Props.C09Full
import LWV.Props.C10
/-
C10 (round trip) — the Spec's decoder undoes the Spec's encoder for any description with values of the table's
sizes, since the walk finds every field where the encoder put it (`enc_walk`, `rtEncode_decode`); for the
generator's descriptions of carried fields the values read back are the supplied ones (`readBack_carried`), and
the parser reports them (`C09_decode_full`): `C10_roundtrip_ext`.  The theorems continue the namespace of
Props/C09Full.lean, whose `valuesOf` their statements use.
-/
namespace LWV.Props.C09Full
open LWV LWV.Model

theorem encStep_prefix (d : Spec.RtDesc) (acc : Bytes) (b : Nat) : acc <+: encStep d acc b := by
  by_cases ha : rtAlign b = 0
  · rw [encStep_undefined d acc ha]; exact List.prefix_refl acc
  · cases hp : d.present.testBit b with
    | false => rw [encStep_absent d acc hp]; exact List.prefix_refl acc
    | true => rw [encStep_present d acc hp ha, List.append_assoc]; exact List.prefix_append _ _

theorem foldl_encStep_prefix (d : Spec.RtDesc) (l : List Nat) (acc : Bytes) : acc <+: l.foldl (encStep d) acc :=
  List.foldlRecOn l (encStep d) (motive := (acc <+: ·)) (List.prefix_refl acc)
    fun x hx b _ => hx.trans (encStep_prefix d x b)

/-- field `b` of a description read on its own: the Spec's reader on the field's value octets -/
def readBack (d : Spec.RtDesc) (m : Nat) (s : Spec.RtValues × Bool) (b : Nat) : Spec.RtValues × Bool :=
  if d.present.testBit b then Spec.valueStep (d.value b) m s ⟨b, 0⟩ else s

theorem readBack_present {d : Spec.RtDesc} {b : Nat} (m : Nat) {s : Spec.RtValues × Bool}
    (h : d.present.testBit b = true) : readBack d m s b = Spec.valueStep (d.value b) m s ⟨b, 0⟩ := if_pos h

theorem readBack_absent {d : Spec.RtDesc} {b : Nat} (m : Nat) {s : Spec.RtValues × Bool}
    (h : d.present.testBit b = false) : readBack d m s b = s := if_neg (by rw [h]; exact Bool.false_ne_true)

/-- the Spec's walk finds every field where the encoder put it: the induction behind `rtEncode_decode`, over the
bits from `b` on, with `acc` the body encoded so far -/
theorem enc_walk (d : Spec.RtDesc)
    (hd : ∀ b, d.present.testBit b = true → rtAlign b ≠ 0 ∧ (d.value b).length = rtSize b)
    (E H Z : Bytes) (hH : H.length = 8) (m : Nat) :
    ∀ (n b : Nat) (acc : Bytes) (fs : List Spec.RtField) (s : Spec.RtValues × Bool),
      (List.range' b n).foldl (encStep d) acc = E →
      (Spec.placeBits (8 + E.length) d.present n b ⟨8 + acc.length, .radiotap, 0, fs, false, false⟩).fields.foldl
          (Spec.valueStep (H ++ E ++ Z) m) s =
        (List.range' b n).foldl (readBack d m) (fs.foldl (Spec.valueStep (H ++ E ++ Z) m) s) := by
  intro n
  induction n with
  | zero => intro b acc fs s _; rfl
  | succ n ih =>
    intro b acc fs s henc
    rw [List.range'_succ, List.foldl_cons] at henc ⊢
    cases hp : d.present.testBit b with
    | true =>
      obtain ⟨hdef, hlen⟩ := hd b hp
      rw [encStep_present d acc hp hdef] at henc
      have hoff :
          8 + (acc ++ List.replicate (Spec.alignUp (8 + acc.length) (rtAlign b) - (8 + acc.length)) (0 : UInt8)).length =
            Spec.alignUp (8 + acc.length) (rtAlign b) := by
        rw [List.length_append, List.length_replicate, ← Nat.add_assoc]
        exact Nat.add_sub_of_le (alignUp_ge (8 + acc.length) (rtAlign b) (Nat.pos_of_ne_zero hdef))
      -- `accP`: the body so far with the padding that brings field `b` to its aligned offset
      generalize acc ++ List.replicate _ 0 = accP at henc hoff
      have hpre : accP ++ d.value b <+: E := henc ▸ foldl_encStep_prefix _ (List.range' (b + 1) n) _
      rw [placeBits_rt _ _ _ _ _ hp rfl rfl rfl]
      simp only [Nat.zero_add]
      rw [if_pos hdef, ← hoff,
        show 8 + accP.length + rtSize b = 8 + (accP ++ d.value b).length by rw [List.length_append, hlen, Nat.add_assoc],
        if_neg (Nat.not_lt.2 (Nat.add_le_add_left hpre.length_le 8)),
        ih (b + 1) _ _ s henc, List.foldl_append, List.foldl_cons, List.foldl_nil, readBack_present m hp]
      obtain ⟨X, hX⟩ := hpre
      rw [show H ++ E ++ Z = H ++ accP ++ d.value b ++ (X ++ Z) by rw [← hX]; simp only [List.append_assoc],
        ← hH, ← List.length_append, Spec.valueStep_mid b (Nat.le_of_eq hlen.symm)]
    | false =>
      rw [encStep_absent d acc hp] at henc
      rw [placeBits_absent _ _ _ _ _ hp rfl rfl, readBack_absent m hp]
      exact ih (b + 1) acc fs s henc

theorem rtFields_single (bs : Bytes) (hv : Spec.u8 bs 0 = 0) (hl8 : 8 ≤ Spec.u16 bs 2)
    (hl : Spec.u16 bs 2 ≤ bs.length) (h255 : Spec.u16 bs 2 ≤ 255) (h31 : (Spec.u32 bs 4).testBit 31 = false) :
    Spec.rtFields bs = some (Spec.u16 bs 2,
      (Spec.placeBits (Spec.u16 bs 2) (Spec.u32 bs 4) 29 0 ⟨8, .radiotap, 0, [], false, false⟩).fields) := by
  unfold Spec.rtFields
  rw [if_neg (Nat.not_lt.2 (Nat.le_trans hl8 hl))]
  rw [if_neg (not_or.2
      ⟨not_not_intro hv, not_or.2 ⟨Nat.not_lt.2 hl8, not_or.2 ⟨Nat.not_lt.2 hl, Nat.not_lt.2 h255⟩⟩⟩),
    Spec.presentWords, if_neg (show ¬ 4 + 4 > Spec.u16 bs 2 from Nat.not_lt.2 hl8)]
  simp only [h31, Bool.false_eq_true, if_false, List.foldl_cons, List.foldl_nil, walkWord_fields, List.length_cons,
    List.length_nil]

theorem present_lt (d : Spec.RtDesc) (hd : ∀ b, d.present.testBit b = true → rtAlign b ≠ 0) :
    d.present < 2 ^ Gen.rtapNBits := by
  apply Nat.lt_pow_two_of_testBit
  intro i hi
  cases h : d.present.testBit i with
  | false => rfl
  | true => exact absurd (rtAlign_ge hi) (hd i h)

/-- The Spec encoder's body as a fold over the 29 field bits of a present word (`rtapNBits` + 6: the six beyond
the table have no row), so that it runs beside `Spec.placeBits` on the one present word of its own output. -/
theorem rtEncode_shape (d : Spec.RtDesc) :
    Spec.rtEncode d =
      ([0, 0] ++ leBytes 2 (8 + ((List.range' 0 29).foldl (encStep d) []).length) ++ leBytes 4 d.present) ++
        (List.range' 0 29).foldl (encStep d) [] := by
  rw [rtEncode_body, rtTable_foldl d [] 6, List.range_eq_range']
  rfl

/-- the Spec's decoder undoes the Spec's encoder, whatever octets follow the header: for a description that selects
only fields of the table, with values of the table's sizes, whose header can announce its length (255 at most),
the header is accepted and reading the placed fields is reading every selected value back -/
theorem rtEncode_decode (d : Spec.RtDesc)
    (hd : ∀ b, d.present.testBit b = true → rtAlign b ≠ 0 ∧ (d.value b).length = rtSize b)
    (hE : (Spec.rtEncode d).length ≤ 255) (Z : Bytes) (m : Nat) :
    ∃ fields, Spec.rtFields (Spec.rtEncode d ++ Z) = some ((Spec.rtEncode d).length, fields) ∧
      ∀ s, fields.foldl (Spec.valueStep (Spec.rtEncode d ++ Z) m) s = (List.range' 0 29).foldl (readBack d m) s := by
  have hp : d.present < 2 ^ 23 := present_lt d fun b h => (hd b h).1
  rw [rtEncode_shape] at hE ⊢
  generalize hEdef : (List.range' 0 29).foldl (encStep d) [] = E at hE ⊢
  generalize hH : [0, 0] ++ leBytes 2 (8 + E.length) ++ leBytes 4 d.present = H at hE ⊢
  have hHl : H.length = 8 := by rw [← hH]; simp [leBytes_length]
  have hlen : (H ++ E).length = 8 + E.length := by rw [List.length_append, hHl]
  rw [hlen] at hE
  have hu8 : Spec.u8 (H ++ E ++ Z) 0 = 0 := by rw [← hH]; rfl
  have hw : Spec.reads (H ++ E ++ Z) 2 [2, 4] = [8 + E.length, d.present] := by
    rw [← hH]
    simp only [List.append_assoc]
    rw [Spec.reads_congr (bs' := leBytes 2 (8 + E.length) ++ (leBytes 4 d.present ++ (E ++ Z))) [2, 4] 2 0 rfl,
      Spec.reads_leBytes, Spec.reads_leBytes, Nat.mod_eq_of_lt (Nat.lt_of_le_of_lt hE (by decide)),
      Nat.mod_eq_of_lt (Nat.lt_trans hp (by decide))]
    rfl
  have hu16 : Spec.u16 (H ++ E ++ Z) 2 = 8 + E.length := congrArg (·.getD 0 0) hw
  have hu32 : Spec.u32 (H ++ E ++ Z) 4 = d.present := congrArg (·.getD 1 0) hw
  have hlenZ : 8 + E.length ≤ (H ++ E ++ Z).length := by rw [List.length_append, hlen]; exact Nat.le_add_right _ _
  have hrt := rtFields_single (H ++ E ++ Z) hu8 (by rw [hu16]; exact Nat.le_add_right 8 _) (by rw [hu16]; exact hlenZ)
    (by rw [hu16]; exact hE) (by rw [hu32]; exact testBit_of_lt hp (by decide))
  rw [hu16, hu32] at hrt
  exact ⟨_, hlen ▸ hrt, fun s => enc_walk d hd E H Z hHl m 29 0 [] [] s hEdef⟩

/-- the values the parser must give back for the header generated from `g` (of total length `len`):
every selected carried field has its supplied value reduced to the field's width, every other value is 0;
band and channel number follow from the frequency -/
def roundtripValues (g : RtGen) (len : Nat) : Spec.RtValues :=
  { length := len,
    flags := if g.present.testBit 1 then g.flags % 256 else 0,
    rateRaw := if g.present.testBit 2 then g.rateRaw % 256 else 0,
    chanFreq := if g.present.testBit 3 then g.chanFreq % 65536 else 0,
    chanFlags := if g.present.testBit 3 then g.chanFlags % 65536 else 0,
    chanBand := if g.present.testBit 3 then (Spec.channelOf (g.chanFreq % 65536)).1 else 0,
    chanCenter := if g.present.testBit 3 then
        (if (Spec.channelOf (g.chanFreq % 65536)).1 = 0 then 0 else (Spec.channelOf (g.chanFreq % 65536)).2)
      else 0,
    signal := if g.present.testBit 5 then g.signal % 256 else 0,
    antennas := [],
    txPower := if g.present.testBit 10 then g.txPower % 256 else 0,
    rxFlags := if g.present.testBit 14 then g.rxFlags % 65536 else 0,
    txFlags := if g.present.testBit 15 then g.txFlags % 65536 else 0,
    rtsRetries := if g.present.testBit 16 then g.rtsRetries % 256 else 0,
    dataRetries := if g.present.testBit 17 then g.dataRetries % 256 else 0,
    mcs := if g.present.testBit 19 then (g.mcsKnown % 256, g.mcsFlags % 256, g.mcsMcs % 256) else (0, 0, 0),
    ts := if g.present.testBit 22 then (g.tsTimestamp % 2 ^ 64, g.tsAccuracy % 65536, g.tsUnit % 256, g.tsFlags % 256)
          else (0, 0, 0, 0) }

/-- `roundtripValues` for a selection `t` of fields in place of the present word, with whether the signal is
selected: the decoder's state after any part of the generated header -/
def selected (t : Nat → Bool) (g : RtGen) (len : Nat) : Spec.RtValues × Bool :=
  ({ length := len,
     flags := if t 1 then g.flags % 256 else 0,
     rateRaw := if t 2 then g.rateRaw % 256 else 0,
     chanFreq := if t 3 then g.chanFreq % 65536 else 0,
     chanFlags := if t 3 then g.chanFlags % 65536 else 0,
     chanBand := if t 3 then (Spec.channelOf (g.chanFreq % 65536)).1 else 0,
     chanCenter := if t 3 then
         (if (Spec.channelOf (g.chanFreq % 65536)).1 = 0 then 0 else (Spec.channelOf (g.chanFreq % 65536)).2)
       else 0,
     signal := if t 5 then g.signal % 256 else 0,
     antennas := [],
     txPower := if t 10 then g.txPower % 256 else 0,
     rxFlags := if t 14 then g.rxFlags % 65536 else 0,
     txFlags := if t 15 then g.txFlags % 65536 else 0,
     rtsRetries := if t 16 then g.rtsRetries % 256 else 0,
     dataRetries := if t 17 then g.dataRetries % 256 else 0,
     mcs := if t 19 then (g.mcsKnown % 256, g.mcsFlags % 256, g.mcsMcs % 256) else (0, 0, 0),
     ts := if t 22 then (g.tsTimestamp % 2 ^ 64, g.tsAccuracy % 65536, g.tsUnit % 256, g.tsFlags % 256)
           else (0, 0, 0, 0) }, t 5)

/-- the decoder's state after the fields below bit `b` of the generated header -/
def expVals (g : RtGen) (len b : Nat) : Spec.RtValues × Bool :=
  selected (fun j => decide (j < b) && g.present.testBit j) g len

theorem below_succ (p b j : Nat) :
    (decide (j < b + 1) && p.testBit j) = (decide (j = b) && p.testBit b || decide (j < b) && p.testBit j) := by
  by_cases h : j = b
  · subst h
    simp
  · have : j < b + 1 ↔ j < b := ⟨fun h' => Nat.lt_of_le_of_ne (Nat.le_of_lt_succ h') h, Nat.lt_succ_of_lt⟩
    simp [h, this]

theorem expVals_absent (g : RtGen) (len b : Nat) (h : g.present.testBit b = false) :
    expVals g len (b + 1) = expVals g len b :=
  congrArg (selected · g len) (funext fun j => by rw [below_succ, h, Bool.and_false, Bool.false_or])

theorem expVals_present (g : RtGen) (len b : Nat) (h : g.present.testBit b = true) :
    expVals g len (b + 1) = selected (fun j => decide (j = b) || decide (j < b) && g.present.testBit j) g len :=
  congrArg (selected · g len) (funext fun j => by rw [below_succ, h, Bool.and_true])

theorem expVals_zero (g : RtGen) (len : Nat) : expVals g len 0 = ({ length := len }, false) := rfl

theorem expVals_final (g : RtGen) (len : Nat) : (expVals g len 29).1 = roundtripValues g len := by rfl

theorem carried_len (g : RtGen) (k : Nat) (hk : k ∈ Spec.carried) :
    rtAlign k ≠ 0 ∧ (rtGenField g k).length = rtSize k := by
  have h : ∀ k ∈ Spec.carried, k ≠ 11 ∧ rtAlign k ≠ 0 ∧ (rtGenField {} k).length = rtSize k := by decide +kernel
  obtain ⟨h11, ha, hl⟩ := h k hk
  exact ⟨ha, by rw [rtGenField_length, if_neg h11, hl]; rfl⟩

/-- one field read back from the generator's own octets: with the selection a variable its tests do not
compute, so once the numbers are decoded (`reads_leBytes`) the two `selected` states agree by unfolding -/
theorem step_carried (g : RtGen) (m len k : Nat) (hk : k ∈ Spec.carried) (hp : g.present.testBit k = true) :
    Spec.valueStep (rtGenField g k) m (expVals g len k) ⟨k, 0⟩ = expVals g len (k + 1) := by
  simp only [Spec.carried, List.mem_cons, List.mem_nil_iff, or_false] at hk
  rw [Spec.valueStep_eq_put, expVals_present g len k hp]
  unfold expVals
  generalize g.present.testBit = t
  rcases hk with rfl | rfl | rfl | rfl | rfl | rfl | rfl | rfl | rfl | rfl | rfl <;>
    rw [rtGenField, Spec.rtWidths] <;>
    simp only [List.append_assoc, Spec.reads_leBytes, Spec.reads_one]
  case inr.inr.inl =>    -- channel: the band is or-ed into the old one, the channel number is an octet
    rw [Spec.put]
    dsimp only
    rw [show (selected _ g len).1.chanBand = 0 from rfl, Nat.zero_or, Nat.mod_eq_of_lt (Spec.channelOf_lt _)]
    rfl
  all_goals rfl

theorem carried_facts (g : RtGen) (k : Nat) (hk : k ∈ Spec.carried) (hp : g.present.testBit k = true) :
    rtAlign k ≠ 0 ∧ (rtGenField g k).length = rtSize k ∧
      ∀ (len : Nat) (A X : Bytes),
        Spec.valueStep (A ++ rtGenField g k ++ X) 16 (expVals g len k) ⟨k, A.length⟩ = expVals g len (k + 1) :=
  ⟨(carried_len g k hk).1, (carried_len g k hk).2, fun len _ _ =>
    (Spec.valueStep_mid k (Nat.le_of_eq (carried_len g k hk).2.symm)).trans
      (step_carried g 16 len k hk hp)⟩

theorem readBack_carried (g : RtGen) (hc : C10.OnlyCarried g) (m len : Nat) : ∀ (n b : Nat),
    (List.range' b n).foldl (readBack (C10.descOf g) m) (expVals g len b) = expVals g len (b + n)
  | 0, _ => rfl
  | n + 1, b => by
    have hs : readBack (C10.descOf g) m (expVals g len b) b = expVals g len (b + 1) := by
      cases hp : g.present.testBit b with
      | true => exact (readBack_present (d := C10.descOf g) m hp).trans (step_carried g m len b (hc b hp) hp)
      | false => exact (readBack_absent (d := C10.descOf g) m hp).trans (expVals_absent g len b hp).symm
    rw [List.range'_succ, List.foldl_cons, hs, Nat.add_comm n 1, ← Nat.add_assoc]
    exact readBack_carried g hc m len n (b + 1)

/-- **C10 (round trip, embedded)** the generated header decodes to the supplied values whatever octets
follow it in the buffer -/
theorem C10_roundtrip_ext (g : RtGen) (hc : C10.OnlyCarried g) (ha : g.antennaCount ≤ 16) (Z : Bytes) :
    ∃ info, parseRadiotapInfo (Spec.rtEncode (C10.descOf g) ++ Z) = .ok info ∧
      valuesOf info = roundtripValues g (Spec.rtEncode (C10.descOf g)).length := by
  obtain ⟨fields, hrt, hv⟩ := rtEncode_decode (C10.descOf g) (fun b hb => carried_len g b (hc b hb))
    (Nat.le_trans (C10.rtEncode_length_le g ha) (by decide)) Z 16
  obtain ⟨info, h1, h2⟩ := C09_decode_full _ _ _ hrt
  refine ⟨info, h1, ?_⟩
  rw [h2, maxAnt]
  unfold Spec.rtValues
  rw [← expVals_zero g, hv, readBack_carried g hc 16 _ 29 0]
  exact expVals_final g _

/-- **C10 (round trip)** decoding the header generated for a description of carried fields gives
back the supplied values -/
theorem C10_roundtrip (g : RtGen) (hc : C10.OnlyCarried g) (ha : g.antennaCount ≤ 16) :
    ∃ info, parseRadiotapInfo (Spec.rtEncode (C10.descOf g)) = .ok info ∧
      valuesOf info = roundtripValues g (Spec.rtEncode (C10.descOf g)).length := by
  have h := C10_roundtrip_ext g hc ha []
  rwa [List.append_nil] at h

theorem C10_roundtrip_statement : C10.C10_roundtrip_statement := by
  intro g hc ha
  obtain ⟨info, h1, h2⟩ := C10_roundtrip g hc ha
  exact ⟨_, info, C10.C10_valid g hc ha, h1, congrArg Spec.RtValues.length h2⟩

/-- **C10 (round trip)**, field by field, for the bytes `createRadiotap` writes -/
theorem C10_roundtrip_fields (g : RtGen) (hc : C10.OnlyCarried g) (ha : g.antennaCount ≤ 16) :
    ∃ h info, createRadiotap g = .ok h ∧ parseRadiotapInfo h = .ok info ∧ info.length = h.length ∧
      info.flags = (if g.present.testBit 1 then g.flags % 256 else 0) ∧
      info.rateRaw = (if g.present.testBit 2 then g.rateRaw % 256 else 0) ∧
      info.chanFreq = (if g.present.testBit 3 then g.chanFreq % 65536 else 0) ∧
      info.chanFlags = (if g.present.testBit 3 then g.chanFlags % 65536 else 0) ∧
      info.chanBand = (if g.present.testBit 3 then (Spec.channelOf (g.chanFreq % 65536)).1 else 0) ∧
      info.chanCenter = (if g.present.testBit 3 then
          (if (Spec.channelOf (g.chanFreq % 65536)).1 = 0 then 0 else (Spec.channelOf (g.chanFreq % 65536)).2)
        else 0) ∧
      info.signal = (if g.present.testBit 5 then g.signal % 256 else 0) ∧
      info.antennas.take info.antennaCount = [] ∧
      info.txPower = (if g.present.testBit 10 then g.txPower % 256 else 0) ∧
      info.rxFlags = (if g.present.testBit 14 then g.rxFlags % 65536 else 0) ∧
      info.txFlags = (if g.present.testBit 15 then g.txFlags % 65536 else 0) ∧
      info.rtsRetries = (if g.present.testBit 16 then g.rtsRetries % 256 else 0) ∧
      info.dataRetries = (if g.present.testBit 17 then g.dataRetries % 256 else 0) ∧
      (info.mcsKnown, info.mcsFlags, info.mcsMcs) =
        (if g.present.testBit 19 then (g.mcsKnown % 256, g.mcsFlags % 256, g.mcsMcs % 256) else (0, 0, 0)) ∧
      (info.tsTimestamp, info.tsAccuracy, info.tsUnit, info.tsFlags) =
        (if g.present.testBit 22 then (g.tsTimestamp % 2 ^ 64, g.tsAccuracy % 65536, g.tsUnit % 256, g.tsFlags % 256)
         else (0, 0, 0, 0)) := by
  obtain ⟨info, h1, h2⟩ := C10_roundtrip g hc ha
  obtain ⟨hlen, hfreq, hcfl, hctr, hband, hrate, hsig, hant, hfl, hrx, htx, hmcs, htxp, hts, hrts, hdata⟩ :=
    Spec.RtValues.mk.inj h2
  exact ⟨_, info, C10.C10_valid g hc ha, h1, hlen, hfl, hrate, hfreq, hcfl, hband, hctr, hsig, hant, htxp, hrx, htx,
    hrts, hdata, hmcs, hts⟩

/-! The round trip on FLAGS | TIMESTAMP, where seven octets of padding separate the two fields. -/
example : ∃ h info, createRadiotap { present := 0x400002, flags := 0x10, tsTimestamp := 0x1122334455667788 } = .ok h ∧
    parseRadiotapInfo h = .ok info ∧ info.flags = 0x10 ∧ info.tsTimestamp = 0x1122334455667788 := by
  obtain ⟨h, info, h1, h2, -, hf, -, -, -, -, -, -, -, -, -, -, -, -, -, hts⟩ :=
    C10_roundtrip_fields { present := 0x400002, flags := 0x10, tsTimestamp := 0x1122334455667788 }
      (C10.onlyCarried_of_subset _ (by decide)) (by decide)
  refine ⟨h, info, h1, h2, ?_, ?_⟩
  · rw [hf]; decide
  · have : info.tsTimestamp = _ := congrArg Prod.fst hts
    rw [this]; decide

end LWV.Props.C09Full
