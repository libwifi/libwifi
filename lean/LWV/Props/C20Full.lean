import LWV.Props.C20
import LWV.Props.C03Full
/-
C20 (frames) — timestamps in GENERATED FRAMES never run backwards.

`Props/C20.lean` proves that the value `libwifi_get_epoch` returns is monotone in the clock reading
and stays below 2^63.  Here that is carried to the octets the generators emit: the eight little-endian
octets behind the 24-octet management header of a beacon / probe response / timing advertisement are
`Model.epoch a.clk` (modulo 2^64 without the no-overflow bound), whatever elements follow and after
any edit history; the other 13 kinds do not depend on the clock at all.
-/
namespace LWV.Props.C20Full
open LWV LWV.Model LWV.Spec LWV.Props.C03 LWV.Props.C03Full

theorem leNat_leBytes_of_lt (n v : Nat) (h : v < 256 ^ n) : leNat (leBytes n v) = v := by
  rw [leNat_leBytes, Nat.mod_eq_of_lt h]

/-- the kinds whose fixed fields start with a timestamp -/
def timestamped : GKind → Bool
  | .beacon | .probeResp | .timingAd => true
  | _ => false

theorem timestamped_iff (k : GKind) : timestamped k = true ↔ (k = .beacon ∨ k = .probeResp ∨ k = .timingAd) := by
  cases k <;> decide +kernel

theorem not_timestamped_iff (k : GKind) : timestamped k = false ↔ (k ≠ .beacon ∧ k ≠ .probeResp ∧ k ≠ .timingAd) := by
  rw [← Bool.not_eq_true, timestamped_iff, not_or, not_or]

/-- the timestamp field of a serialised beacon / probe response / timing advertisement: the eight
octets behind the 24-octet management header, little-endian -/
def frameTimestamp (bytes : Bytes) : Nat := leNat ((bytes.drop 24).take 8)

theorem frameTimestamp_lt (bytes : Bytes) : frameTimestamp bytes < 2 ^ 64 := by
  have h8 : ((bytes.drop 24).take 8).length ≤ 8 := by
    rw [List.length_take]
    exact Nat.min_le_left _ _
  exact Nat.lt_of_lt_of_le (leNat_lt _) (Nat.pow_le_pow_right (by decide) h8)

theorem frameTimestamp_append {pre rest : Bytes} {v : Nat} (h : pre.length = 24) :
    frameTimestamp (pre ++ (leBytes 8 v ++ rest)) = v % 2 ^ 64 := by
  unfold frameTimestamp
  rw [List.drop_left' h, List.take_left' (leBytes_length 8 v), LWV.leNat_leBytes]

/-- the field of the Spec frame, for ANY elements / details behind the fixed fields -/
theorem frameTimestamp_frame (k : GKind) (hk : timestamped k = true) (a : GArgs) (es : List Elem) (det : Bytes) :
    frameTimestamp (Spec.frame (sk k) (sa a) es det) = epoch a.clk % 2 ^ 64 := by
  -- three management kinds; their fixed fields start with the timestamp
  obtain ⟨hc, r, hr⟩ : k.isCtrl = false ∧ ∃ r, Spec.fixed (sk k) (sa a) = leBytes 8 (Spec.timestamp (sa a)) ++ r := by
    rcases (timestamped_iff k).mp hk with rfl | rfl | rfl
    · exact ⟨rfl, _, List.append_assoc _ _ _⟩
    · exact ⟨rfl, _, List.append_assoc _ _ _⟩
    · exact ⟨rfl, _, by unfold Spec.fixed sk; simp only [List.append_assoc]; rfl⟩
  rw [frame_eq, hr, List.append_assoc, List.append_assoc, frameTimestamp_append (hdrOf_length_mgmt k a hc),
    timestamp_sa]
  exact Nat.mod_mod _ _

/-- under the guard of `C20.C20_no_overflow` the epoch value fits the field -/
theorem epoch_fits (t : Timespec) (h : t.sec < 2 ^ 43 ∧ t.nsec < 10 ^ 9) : epoch t % 2 ^ 64 = epoch t :=
  Nat.mod_eq_of_lt (Nat.lt_trans (C20.C20_no_overflow t h.1 h.2) (by decide))

/-- every object that is `Good` (serialises to the Spec frame of SOME elements and details) carries
the timestamp of its creation arguments -/
theorem frameTimestamp_good {k : GKind} (hk : timestamped k = true) {a : GArgs} {o : GObj} {es : List Elem} {det : Bytes}
    (g : Good k a o es det) {bytes : Bytes} (henc : o.encoding = .ok bytes) :
    frameTimestamp bytes = epoch a.clk % 2 ^ 64 := by
  cases g.enc.symm.trans henc
  exact frameTimestamp_frame k hk a es det

/-- whatever objects and octets a creation followed by an admissible history produced (the empty history: the
created object itself), without a bound on the clock: the field is the epoch value as an unsigned 64-bit number -/
theorem frameTimestamp_run (k : GKind) (hk : timestamped k = true) (a : GArgs) (hs : (cstr a.ssid).length ≤ 255)
    (edits : List GEdit) (had : admissibleAll k (st0 k a) edits = true) {o0 o : GObj} {rs : List Int} {bytes : Bytes}
    (hc : create k a = .ok (0, o0)) (hrun : runEdits o0 edits = .ok (rs, o)) (henc : o.encoding = .ok bytes) :
    frameTimestamp bytes = epoch a.clk % 2 ^ 64 :=
  frameTimestamp_good hk (good_of_run k a hs edits had hc hrun) henc

/-- **C20 (field)** a freshly created beacon / probe response / timing advertisement carries exactly
the microsecond timestamp of the clock reading it was created with: no truncation -/
theorem C20_frame_timestamp (k : GKind) (hk : timestamped k = true) (a : GArgs) (hs : (cstr a.ssid).length ≤ 255)
    (hclk : a.clk.sec < 2 ^ 43 ∧ a.clk.nsec < 10 ^ 9)
    (o : GObj) (bytes : Bytes) (hc : create k a = .ok (0, o)) (henc : o.encoding = .ok bytes) :
    frameTimestamp bytes = epoch a.clk := by
  rw [frameTimestamp_run k hk a hs [] rfl hc rfl henc, epoch_fits a.clk hclk]

theorem C20_frame_timestamp' (k : GKind) (hk : k = .beacon ∨ k = .probeResp ∨ k = .timingAd) (a : GArgs)
    (hs : (cstr a.ssid).length ≤ 255) (hclk : a.clk.sec < 2 ^ 43 ∧ a.clk.nsec < 10 ^ 9)
    (o : GObj) (bytes : Bytes) (hc : create k a = .ok (0, o)) (henc : o.encoding = .ok bytes) :
    frameTimestamp bytes = epoch a.clk :=
  C20_frame_timestamp k ((timestamped_iff k).mpr hk) a hs hclk o bytes hc henc

theorem C20_frame_timestamp_exists (k : GKind) (hk : timestamped k = true) (a : GArgs) (hs : (cstr a.ssid).length ≤ 255)
    (hclk : a.clk.sec < 2 ^ 43 ∧ a.clk.nsec < 10 ^ 9) :
    ∃ o bytes, create k a = .ok (0, o) ∧ o.encoding = .ok bytes ∧ frameTimestamp bytes = epoch a.clk := by
  obtain ⟨o, hc, g⟩ := good_create k a hs
  exact ⟨o, _, hc, g.enc, C20_frame_timestamp k hk a hs hclk o _ hc g.enc⟩

/-- **C20 (frames)** two creations — possibly of different kinds among the three, with different
arguments — whose clock readings are in order: the timestamp fields of the two serialised frames
are in the same order. -/
theorem C20_frames (k₁ k₂ : GKind) (hk₁ : timestamped k₁ = true) (hk₂ : timestamped k₂ = true) (a₁ a₂ : GArgs)
    (hs₁ : (cstr a₁.ssid).length ≤ 255) (hs₂ : (cstr a₂.ssid).length ≤ 255)
    (hclk₁ : a₁.clk.sec < 2 ^ 43 ∧ a₁.clk.nsec < 10 ^ 9) (hclk₂ : a₂.clk.sec < 2 ^ 43 ∧ a₂.clk.nsec < 10 ^ 9)
    (hle : a₁.clk.le a₂.clk)
    (o₁ o₂ : GObj) (bytes₁ bytes₂ : Bytes)
    (hc₁ : create k₁ a₁ = .ok (0, o₁)) (henc₁ : o₁.encoding = .ok bytes₁)
    (hc₂ : create k₂ a₂ = .ok (0, o₂)) (henc₂ : o₂.encoding = .ok bytes₂) :
    frameTimestamp bytes₁ ≤ frameTimestamp bytes₂ := by
  rw [C20_frame_timestamp k₁ hk₁ a₁ hs₁ hclk₁ o₁ bytes₁ hc₁ henc₁,
    C20_frame_timestamp k₂ hk₂ a₂ hs₂ hclk₂ o₂ bytes₂ hc₂ henc₂]
  exact C20.C20_monotone a₁.clk a₂.clk hclk₁.2 hle

/-- **C20 (frames, weakest hypotheses)** `nsec < 10^9` for the EARLIER reading
only (as `C20_monotone`), and the LATER epoch value fits the 64-bit field.  (Some bound on the later
reading is necessary: a later field that wrapped modulo 2^64 would be smaller.) -/
theorem C20_frames_weak (k₁ k₂ : GKind) (hk₁ : timestamped k₁ = true) (hk₂ : timestamped k₂ = true) (a₁ a₂ : GArgs)
    (hs₁ : (cstr a₁.ssid).length ≤ 255) (hs₂ : (cstr a₂.ssid).length ≤ 255)
    (hn₁ : a₁.clk.nsec < 10 ^ 9) (hfit₂ : epoch a₂.clk < 2 ^ 64)
    (hle : a₁.clk.le a₂.clk)
    (o₁ o₂ : GObj) (bytes₁ bytes₂ : Bytes)
    (hc₁ : create k₁ a₁ = .ok (0, o₁)) (henc₁ : o₁.encoding = .ok bytes₁)
    (hc₂ : create k₂ a₂ = .ok (0, o₂)) (henc₂ : o₂.encoding = .ok bytes₂) :
    frameTimestamp bytes₁ ≤ frameTimestamp bytes₂ := by
  have hm := C20.C20_monotone a₁.clk a₂.clk hn₁ hle
  rw [frameTimestamp_run k₁ hk₁ a₁ hs₁ [] rfl hc₁ rfl henc₁, frameTimestamp_run k₂ hk₂ a₂ hs₂ [] rfl hc₂ rfl henc₂,
    Nat.mod_eq_of_lt hfit₂, Nat.mod_eq_of_lt (Nat.lt_of_le_of_lt hm hfit₂)]
  exact hm

/-- **edits never touch the timestamp** create, then ANY admissible history of edits (added,
removed, replaced tags, counts): the history runs, the final object serialises, and the field is
still the timestamp of the creation -/
theorem C20_frame_timestamp_edited (k : GKind) (hk : timestamped k = true) (a : GArgs) (hs : (cstr a.ssid).length ≤ 255)
    (hclk : a.clk.sec < 2 ^ 43 ∧ a.clk.nsec < 10 ^ 9)
    (edits : List GEdit) (had : admissibleAll k (st0 k a) edits = true) :
    ∃ o0 rs o bytes, create k a = .ok (0, o0) ∧ runEdits o0 edits = .ok (rs, o) ∧ o.encoding = .ok bytes ∧
      frameTimestamp bytes = epoch a.clk := by
  obtain ⟨o0, rs, o, h1, h2, _, g⟩ := C03_full_history k a hs edits had
  exact ⟨o0, rs, o, _, h1, h2, g.enc, (frameTimestamp_frame k hk a _ _).trans (epoch_fits a.clk hclk)⟩

/-- tag edits need NO side condition at all (over-long bodies, numbers beyond one octet, removals
behind inner empty elements): the field stays the timestamp -/
theorem C20_frame_timestamp_any_tags (k : GKind) (hk : timestamped k = true) (a : GArgs) (hs : (cstr a.ssid).length ≤ 255)
    (hclk : a.clk.sec < 2 ^ 43 ∧ a.clk.nsec < 10 ^ 9) (ops : List TagOp) :
    ∃ o0 rs o bytes, create k a = .ok (0, o0) ∧ runEdits o0 (ops.map .tag) = .ok (rs, o) ∧ o.encoding = .ok bytes ∧
      frameTimestamp bytes = epoch a.clk := by
  obtain ⟨o0, hc, g0⟩ := good_create k a hs
  have ht : o0.hasTags = true := by
    rw [hasTags_eq, g0.kind]
    rcases (timestamped_iff k).mp hk with rfl | rfl | rfl <;> rfl
  obtain ⟨rs, o, h1, _, g⟩ := tags_any_history k a ops o0 _ _ g0 ht
  exact ⟨o0, rs, o, _, hc, h1, g.enc, (frameTimestamp_frame k hk a _ _).trans (epoch_fits a.clk hclk)⟩

/-- **C20 (frames, after edits)** two creations with clock readings in order, each followed by an
arbitrary admissible edit history: the timestamp fields of the final frames are in order -/
theorem C20_frames_edited (k₁ k₂ : GKind) (hk₁ : timestamped k₁ = true) (hk₂ : timestamped k₂ = true) (a₁ a₂ : GArgs)
    (hs₁ : (cstr a₁.ssid).length ≤ 255) (hs₂ : (cstr a₂.ssid).length ≤ 255)
    (hclk₁ : a₁.clk.sec < 2 ^ 43 ∧ a₁.clk.nsec < 10 ^ 9) (hclk₂ : a₂.clk.sec < 2 ^ 43 ∧ a₂.clk.nsec < 10 ^ 9)
    (hle : a₁.clk.le a₂.clk)
    (edits₁ edits₂ : List GEdit)
    (had₁ : admissibleAll k₁ (st0 k₁ a₁) edits₁ = true) (had₂ : admissibleAll k₂ (st0 k₂ a₂) edits₂ = true)
    (o0₁ o₁ o0₂ o₂ : GObj) (rs₁ rs₂ : List Int) (bytes₁ bytes₂ : Bytes)
    (hc₁ : create k₁ a₁ = .ok (0, o0₁)) (hrun₁ : runEdits o0₁ edits₁ = .ok (rs₁, o₁)) (henc₁ : o₁.encoding = .ok bytes₁)
    (hc₂ : create k₂ a₂ = .ok (0, o0₂)) (hrun₂ : runEdits o0₂ edits₂ = .ok (rs₂, o₂)) (henc₂ : o₂.encoding = .ok bytes₂) :
    frameTimestamp bytes₁ ≤ frameTimestamp bytes₂ := by
  rw [frameTimestamp_run k₁ hk₁ a₁ hs₁ edits₁ had₁ hc₁ hrun₁ henc₁, epoch_fits a₁.clk hclk₁,
    frameTimestamp_run k₂ hk₂ a₂ hs₂ edits₂ had₂ hc₂ hrun₂ henc₂, epoch_fits a₂.clk hclk₂]
  exact C20.C20_monotone a₁.clk a₂.clk hclk₁.2 hle

theorem C20_frames_edited_exists (k₁ k₂ : GKind) (hk₁ : timestamped k₁ = true) (hk₂ : timestamped k₂ = true) (a₁ a₂ : GArgs)
    (hs₁ : (cstr a₁.ssid).length ≤ 255) (hs₂ : (cstr a₂.ssid).length ≤ 255)
    (hclk₁ : a₁.clk.sec < 2 ^ 43 ∧ a₁.clk.nsec < 10 ^ 9) (hclk₂ : a₂.clk.sec < 2 ^ 43 ∧ a₂.clk.nsec < 10 ^ 9)
    (hle : a₁.clk.le a₂.clk)
    (edits₁ edits₂ : List GEdit)
    (had₁ : admissibleAll k₁ (st0 k₁ a₁) edits₁ = true) (had₂ : admissibleAll k₂ (st0 k₂ a₂) edits₂ = true) :
    ∃ o0₁ rs₁ o₁ bytes₁ o0₂ rs₂ o₂ bytes₂,
      create k₁ a₁ = .ok (0, o0₁) ∧ runEdits o0₁ edits₁ = .ok (rs₁, o₁) ∧ o₁.encoding = .ok bytes₁ ∧
      create k₂ a₂ = .ok (0, o0₂) ∧ runEdits o0₂ edits₂ = .ok (rs₂, o₂) ∧ o₂.encoding = .ok bytes₂ ∧
      frameTimestamp bytes₁ ≤ frameTimestamp bytes₂ := by
  obtain ⟨o0₁, rs₁, o₁, b₁, h1, h2, h3, h4⟩ := C20_frame_timestamp_edited k₁ hk₁ a₁ hs₁ hclk₁ edits₁ had₁
  obtain ⟨o0₂, rs₂, o₂, b₂, g1, g2, g3, g4⟩ := C20_frame_timestamp_edited k₂ hk₂ a₂ hs₂ hclk₂ edits₂ had₂
  refine ⟨o0₁, rs₁, o₁, b₁, o0₂, rs₂, o₂, b₂, h1, h2, h3, g1, g2, g3, ?_⟩
  rw [h4, g4]
  exact C20.C20_monotone a₁.clk a₂.clk hclk₁.2 hle

theorem create_clk {k : GKind} {a : GArgs} {t : Timespec} (hf : fixedOf k { a with clk := t } = fixedOf k a) :
    create k a = create k { a with clk := t } := by
  unfold create
  rw [hf]
  rfl

/-- **C20 (no other clock-dependent octet)** for the 13 kinds without a timestamp the created object
— hence everything derived from it — is the same for every clock reading -/
theorem C20_no_clock (k : GKind) (hk : timestamped k = false) (a : GArgs) (t : Timespec) :
    create k a = create k { a with clk := t } := by
  refine create_clk ?_
  cases k
  case beacon | probeResp | timingAd => cases hk
  all_goals rfl

theorem C20_no_clock' (k : GKind) (hk : k ≠ .beacon ∧ k ≠ .probeResp ∧ k ≠ .timingAd) (a : GArgs) (t : Timespec) :
    create k a = create k { a with clk := t } :=
  C20_no_clock k ((not_timestamped_iff k).mpr hk) a t

/-- for the three timestamped kinds the clock enters ONLY through `epoch … % 2^64`: two clock
readings with the same 64-bit epoch value give the same object -/
theorem C20_clock_only_via_epoch (k : GKind) (a : GArgs) (t : Timespec) (h : epoch t % 2 ^ 64 = epoch a.clk % 2 ^ 64) :
    create k a = create k { a with clk := t } := by
  refine create_clk ?_
  unfold fixedOf
  rw [h]

/-! Two clock readings straddling a second boundary, a beacon created at the first and a probe response
(different SSID, channel) at the second.  The hypotheses of `C20_frames` hold; independently the
MODEL evaluated in the kernel gives the fields 5 999 999 µs and 6 000 000 µs. -/

def exA₁ : GArgs := { ssid := [0x41, 0x42], ch := 6, clk := ⟨5, 999999999⟩ }
def exA₂ : GArgs := { ssid := [0x43], ch := 11, clk := ⟨6, 0⟩ }

def modelTimestamp (k : GKind) (a : GArgs) : Outcome Nat := do
  let (_, o) ← create k a
  let b ← o.encoding
  .ok (frameTimestamp b)

example : exA₁.clk.le exA₂.clk ∧ (cstr exA₁.ssid).length ≤ 255 ∧ (cstr exA₂.ssid).length ≤ 255 ∧
    (exA₁.clk.sec < 2 ^ 43 ∧ exA₁.clk.nsec < 10 ^ 9) ∧ (exA₂.clk.sec < 2 ^ 43 ∧ exA₂.clk.nsec < 10 ^ 9) := by
  refine ⟨Or.inl (by decide), by decide, by decide, ⟨by decide, by decide⟩, ⟨by decide, by decide⟩⟩

example : modelTimestamp .beacon exA₁ = .ok 5999999 ∧ modelTimestamp .probeResp exA₂ = .ok 6000000 ∧
    modelTimestamp .timingAd exA₂ = .ok 6000000 := by
  decide +kernel

/-- the theorems applied to the example: the two frames exist and their fields are the two values -/
example : ∃ o₁ b₁ o₂ b₂, create .beacon exA₁ = .ok (0, o₁) ∧ o₁.encoding = .ok b₁ ∧
    create .probeResp exA₂ = .ok (0, o₂) ∧ o₂.encoding = .ok b₂ ∧
    frameTimestamp b₁ = 5999999 ∧ frameTimestamp b₂ = 6000000 ∧ frameTimestamp b₁ ≤ frameTimestamp b₂ := by
  obtain ⟨o₁, b₁, h1, h2, h3⟩ := C20_frame_timestamp_exists .beacon rfl exA₁ (by decide) ⟨by decide, by decide⟩
  obtain ⟨o₂, b₂, g1, g2, g3⟩ := C20_frame_timestamp_exists .probeResp rfl exA₂ (by decide) ⟨by decide, by decide⟩
  have e1 : epoch exA₁.clk = 5999999 := by decide +kernel
  have e2 : epoch exA₂.clk = 6000000 := by decide +kernel
  refine ⟨o₁, b₁, o₂, b₂, h1, h2, g1, g2, by rw [h3, e1], by rw [g3, e2], ?_⟩
  exact C20_frames .beacon .probeResp rfl rfl exA₁ exA₂ (by decide) (by decide) ⟨by decide, by decide⟩ ⟨by decide, by decide⟩
    (Or.inl (by decide)) o₁ o₂ b₁ b₂ h1 h2 g1 g2

/-- the guard on the clock is needed for "no truncation": at `sec = 2^64` the field wraps -/
example : epoch ⟨2 ^ 64, 0⟩ % 2 ^ 64 ≠ epoch ⟨2 ^ 64, 0⟩ := by decide +kernel

end LWV.Props.C20Full
