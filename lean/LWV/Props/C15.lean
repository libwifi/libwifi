import LWV.Lemmas.Heap
/-
C15 — allocation failure is reported as an error, never a crash or silent loss.

`σ : Nat → Bool` is an ARBITRARY fault schedule (the k-th allocation request fails iff `σ k`):
single failures, "all from k on" and every other pattern are covered at once.  The skeletons
(`LWV.Heap.*H`) perform the allocation events of the C in order and are tied to the code by the
allocation-trace correspondence (every fault index of every scenario, both modes).  Here the tag API; the
generators and classification are in Props/C14Full.lean, the extraction routines in Props/C14Parse.lean, the
management parsers and the repeated call in Props/C15Parse.lean.
-/
namespace LWV.Props.C15
open LWV LWV.Model LWV.Heap

/-- **C15 (add)** a tag that could not be stored is never reported as stored: under every fault
schedule, `libwifi_quick_add_tag` either reports an error and leaves the list (bytes, length and block)
exactly as it was, or reports success and the list is the fault-free result -/
theorem C15_add_reported (σ : Nat → Bool) (th : TagsH) (num : Nat) (data : Bytes) (h : H) (own : List Nat) (l : Ledger th h own) :
    (((quickAddTagH σ th num data).run h).1.1 < 0 ∧ ((quickAddTagH σ th num data).run h).1.2 = th) ∨
    (((quickAddTagH σ th num data).run h).1.1 = 0 ∧ quickAddTag th.t num data = .ok ((quickAddTagH σ th num data).run h).1.2.t) :=
  (quickAddTagH_rep σ th num data h own l).stepOk.dich

/-- **C15 (remove)** removal completes correctly without needing its allocation: the result is the
fault-free result under every schedule (a failed shrink keeps the old block) -/
theorem C15_remove (σ : Nat → Bool) (th : TagsH) (num : Nat) (h : H) (own : List Nat) (l : Ledger th h own) :
    removeTag th.t num = .ok (((removeTagH σ th num).run h).1.1, ((removeTagH σ th num).run h).1.2.t) :=
  (removeTagH_spec σ th num h own l).1

/-- **C15 (set)** the SSID / channel setters lose no previously stored data: error-and-unchanged,
or the fault-free result -/
theorem C15_set (σ : Nat → Bool) (th : TagsH) (num : Nat) (data : Bytes) (h : H) (own : List Nat) (l : Ledger th h own) :
    (((setTagH σ th num data).run h).1.1 < 0 ∧ ((setTagH σ th num data).run h).1.2 = th) ∨
    setTag th.t num data = .ok (((setTagH σ th num data).run h).1.1, ((setTagH σ th num data).run h).1.2.t) :=
  (setTagH_rep σ th num data h own l).res.imp_left fun a => ⟨a.1, a.2.1⟩

/-- **C15 (releasable)** after any history under any schedule the object is releasable without a
leak, a double free or an invalid free: releasing its one block empties the ledger -/
theorem C15_releasable (σ : Nat → Bool) (ops : List TagOp) :
    let r := (do let th ← runHistory σ ops {}; free th.ptr : M Unit).run {}
    r.2.live = [] ∧ r.2.bad = 0 :=
  have l1 := runHistory_ledger σ ops {} {} [] (ledger_empty clean_init)
  clean_nil_live (free_has l1.has)

/-! non-vacuity: the ledger hypothesis holds for the freshly zeroed object -/
example : Ledger ({} : TagsH) ({} : H) [] := ledger_empty clean_init

end LWV.Props.C15
