import LWV.Lemmas.Tlv
/-
C06 — tag iteration reports only genuine in-bounds elements, in order, and terminates.
-/
namespace LWV.Props.C06
open LWV LWV.Spec LWV.Model

/-- **C06 (exact)** for EVERY buffer: if the first element does not fit the buffer is refused;
otherwise the caller's loop terminates and reports exactly the first element followed by every
complete element up to the first empty one, with their true offsets. -/
theorem C06_exact (bs : Bytes) :
    reported bs = if firstFits bs then .ok (visible (parseAt bs)) else .err (-EINVAL) := by
  unfold reported iterInit
  match bs with
  | [] => rfl
  | [_] => rfl
  | n :: l :: rest =>
    have hlen : (n :: l :: rest).length = rest.length + 2 := rfl
    rw [hlen, if_neg (Nat.not_lt.mpr (Nat.le_add_left 2 _)), show rd "tags" (n :: l :: rest) 1 = .ok l from rfl,
      Outcome.bind_ok, Nat.add_sub_cancel]
    by_cases hfit : l.toNat ≤ rest.length
    · have hloop := iterLoop_drop (n :: l :: rest) (rest.length + 2 + 1) 0 n l rest rfl hfit
        (Nat.lt_of_le_of_lt (Nat.sub_le _ _) (Nat.lt_add_of_pos_right (Nat.succ_pos 2)))
      rw [hlen, Nat.zero_add] at hloop
      rw [if_neg (Nat.not_lt.mpr hfit), Outcome.bind_ok, hloop, if_pos (show firstFits (n :: l :: rest) from hfit),
        parseAt_eq_offsets]
    · rw [if_pos (Nat.lt_of_not_le hfit), if_neg (show ¬ firstFits (n :: l :: rest) from hfit)]
      rfl

/-- iteration terminates without touching memory outside the buffer, on every input -/
theorem C06_total (bs : Bytes) : (reported bs).isFault = false := by
  rw [C06_exact]; split <;> rfl

theorem C06_refuse_first (bs : Bytes) (h : ¬ firstFits bs) : reported bs = .err (-EINVAL) := by
  rw [C06_exact, if_neg h]

theorem reported_ok {bs : Bytes} {es : List ElemAt} (h : reported bs = .ok es) : es = visible (parseAt bs) := by
  rw [C06_exact] at h
  split at h
  · exact (Outcome.ok.inj h).symm
  · cases h

/-- every element of the greedy parse sits in the buffer: at its offset lie its number, its length octet and at
least that many octets -/
theorem parseAtF_sound (tags : Bytes) (f base : Nat) (bs : Bytes) (h : tags.drop base = bs) :
    ∀ e ∈ parseAtF f base bs, ∃ l rest,
      tags.drop e.off = e.num :: l :: rest ∧ l.toNat = e.len ∧ e.len ≤ rest.length := by
  fun_induction parseAtF f base bs with
  | case1 => exact nofun
  | case2 fuel base n l rest hl ih =>
    intro e he
    rcases List.mem_cons.mp he with rfl | he
    · exact ⟨l, rest, h, rfl, hl⟩
    · exact ih (drop_next h _) e he
  | case3 => exact nofun
  | case4 => exact nofun

theorem visible_prefix (l : List ElemAt) : visible l <+: l := by
  cases l with
  | nil => exact List.prefix_refl _
  | cons e t =>
    simp only [visible]
    exact (List.prefix_cons_inj e).mpr (List.takeWhile_prefix _)

/-- **C06 (sound)** whatever is reported is a prefix of the buffer's genuine element sequence
(wire order, none skipped, none repeated), and each reported element lies wholly inside the
buffer with the number and length octets the buffer holds at its offset. -/
theorem C06_sound (bs : Bytes) (es : List ElemAt) (h : reported bs = .ok es) :
    es <+: parseAt bs ∧
    ∀ e ∈ es, e.off + 2 + e.len ≤ bs.length ∧ bs[e.off]? = some e.num ∧
      (bs[e.off + 1]?).map UInt8.toNat = some e.len := by
  obtain rfl := reported_ok h
  refine ⟨visible_prefix _, fun e he => ?_⟩
  have hm : e ∈ parseAt bs := (visible_prefix _).subset he
  obtain ⟨l, rest, h2, h3, h4⟩ := parseAtF_sound bs bs.length 0 bs rfl e hm
  have g0 : (bs.drop e.off)[0]? = bs[e.off]? := List.getElem?_drop
  have g1 : (bs.drop e.off)[1]? = bs[e.off + 1]? := List.getElem?_drop
  rw [h2] at g0 g1
  rw [length_of_drop h2, ← g0, ← g1, ← h3]
  have hle : l.toNat ≤ rest.length := h3 ▸ h4
  exact ⟨Nat.add_assoc e.off 2 _ ▸ Nat.add_le_add_left (Nat.add_comm l.toNat 2 ▸ Nat.add_le_add_right hle 2) e.off, rfl, rfl⟩

/-- **C06 (complete)** every element that precedes the first truncated or non-leading empty
element is reported: what is cut off the genuine sequence starts with an empty element. -/
theorem C06_complete (bs : Bytes) (es : List ElemAt) (h : reported bs = .ok es) :
    ∃ rest, parseAt bs = es ++ rest ∧ (es = [] → rest = []) ∧ ∀ r ∈ rest.head?, r.len = 0 := by
  obtain rfl := reported_ok h
  cases hp : parseAt bs with
  | nil => exact ⟨[], rfl, fun _ => rfl, nofun⟩
  | cons e t =>
    refine ⟨t.dropWhile (fun x => x.len ≠ 0), ?_, nofun, ?_⟩
    · exact congrArg (e :: ·) List.takeWhile_append_dropWhile.symm
    · intro r hr
      have := List.head?_dropWhile_not (fun x : ElemAt => decide (x.len ≠ 0)) t
      rw [hr] at this
      simpa using this

/-! Two elements are reported and the walk stops at the empty third one, so the element behind it stays unseen;
a length octet that overruns a two-octet buffer is refused. -/
example : reported [0, 2, 65, 66, 3, 1, 7, 1, 0, 9, 1, 5] =
    .ok [⟨0, 0, 2⟩, ⟨4, 3, 1⟩] := by decide +kernel
example : reported [0, 0x20] = .err (-EINVAL) := by decide +kernel

end LWV.Props.C06
