import LWV.Props.C09Full
import LWV.Model.Rssi
/-
C09 (rssi) — the shortcut entry point `libwifi_parse_radiotap_rssi(frame)` (model: `Model.parseRssi`)
walks the radiotap header with the vendored iterator and returns the octet of the first field whose
index is 5 (dBm antenna signal).  On every buffer that holds the header its length field announces the
result is the octet of the first field 5 the Spec's walk places, or 0 (`parseRssi_eq`); for EVERY header
the Spec accepts that is the `signal` of the declarative reading (`C09_rssi`), hence the `signal` member
the full decoder `libwifi_parse_radiotap_info` stores (`C09_rssi_eq_info`).

The loop is read off the sequence of fields the iterator reports (`C09Full.Reports`): fields of a vendor
namespace are never reported (no vendor namespace is registered: `rtNext_giveup`), the only other thing
reported is the vendor descriptor itself with index 30, so an index of 5 can only be a field 5 of the
radiotap namespace — there is no discrepancy between the C loop (which compares only the index) and
the Spec.
-/
namespace LWV.Props.C09Rssi
open LWV LWV.Model
open LWV.Props.C09Full

/-- the octet at the first placed field with number 5, 0 when there is none -/
def firstSignal (bs : Bytes) (fields : List Spec.RtField) : Nat :=
  match fields.find? (fun f => f.field == 5) with
  | some f => Spec.u8 bs f.off
  | none => 0

theorem firstSignal_cons (bs : Bytes) (f : Spec.RtField) (fs : List Spec.RtField) :
    firstSignal bs (f :: fs) = if f.field = 5 then Spec.u8 bs f.off else firstSignal bs fs := by
  unfold firstSignal
  by_cases h : f.field = 5
  · rw [List.find?_cons_of_pos (by simp [h]), if_pos h]
  · rw [List.find?_cons_of_neg (by simp [h]), if_neg h]

/-- folding `Spec.valueStep`: once the mark is set the signal stays; before that it becomes the octet of the
first field 5 to come -/
theorem foldl_signal (bs : Bytes) (m : Nat) : ∀ (fs : List Spec.RtField) (s : Spec.RtValues × Bool),
    (s.2 = true → (fs.foldl (Spec.valueStep bs m) s).1.signal = s.1.signal) ∧
    (s.2 = false → s.1.signal = 0 → (fs.foldl (Spec.valueStep bs m) s).1.signal = firstSignal bs fs) := by
  intro fs
  induction fs with
  | nil => intro s; exact ⟨fun _ => rfl, fun _ h => h⟩
  | cons f fs ih =>
    intro s
    obtain ⟨-, hseen, hsig⟩ := Spec.valueStep_kept bs m s f
    obtain ⟨ih1, ih2⟩ := ih (Spec.valueStep bs m s f)
    rw [List.foldl_cons, firstSignal_cons]
    refine ⟨fun h => ?_, fun h h0 => ?_⟩
    · rw [ih1 (by rw [hseen, h]; rfl), hsig, if_neg (by rw [h]; simp)]
    · by_cases h5 : f.field = 5
      · rw [ih1 (by rw [hseen]; simp [h5]), hsig, if_pos ⟨h5, h⟩, if_pos h5]
      · rw [ih2 (by rw [hseen, h]; simp [h5]) (by rw [hsig, if_neg (fun c => h5 c.1), h0]), if_neg h5]

theorem rtValues_signal (bs : Bytes) (itLen : Nat) (fields : List Spec.RtField) (m : Nat) :
    (Spec.rtValues bs itLen fields m).signal = firstSignal bs fields :=
  (foldl_signal bs m fields _).2 rfl rfl

/-- the loop of `libwifi_parse_radiotap_rssi` tests the field it stands on before asking for the next: that
field heads the list -/
theorem rssiLoop_reports {bs : Bytes} : ∀ (fuel : Nat) {n : Nat} {it : RtIt} {more : List Spec.RtField},
    Reports bs n it more → n < fuel → RtArgOk bs it →
      rssiLoop bs fuel it = .ok (firstSignal bs (⟨it.thisArgIndex, it.thisArg⟩ :: more)) := by
  intro fuel
  induction fuel with
  | zero => intro n it more _ h; omega
  | succ fuel ih =>
    intro n it more hr hf hok
    rw [rssiLoop, firstSignal_cons]
    by_cases h5 : it.thisArgIndex = 5
    · have hb := hok (by rw [h5]; decide) (by rw [h5]; decide)
      rw [h5, rtSize_handled.2.2.2.1] at hb
      rw [if_pos h5, if_pos h5, rd_getD (Nat.lt_of_succ_le hb)]
      rfl
    · rw [if_neg h5, if_neg h5]
      cases hr with
      | stop h => rw [h]; rfl
      | @vendor _ _ it' _ h h30 hr' =>
        rw [h]
        exact (ih hr' (Nat.lt_of_succ_lt_succ hf) (fun _ h => absurd h30 h)).trans
          (by rw [firstSignal_cons, if_neg (show it'.thisArgIndex ≠ 5 by rw [h30]; decide)])
      | field h hb hr' =>
        rw [h]
        exact ih hr' (Nat.lt_of_succ_lt_succ hf) (fun _ _ => hb)

/-- the side condition the differential driver uses (`Model.rssiCovered`: the buffer holds the whole
announced header) follows from the Spec accepting the header: it need not be assumed -/
theorem rssiCovered_of_rtFields {bs : Bytes} {itLen : Nat} {fields : List Spec.RtField}
    (h : Spec.rtFields bs = some (itLen, fields)) : rssiCovered bs = true := by
  obtain ⟨h8, _, hit, _, hile, _, _⟩ := rtFields_some h
  unfold rssiCovered
  rw [le16At_u16 (Nat.le_trans (by decide) h8), ← hit]
  simp [hile]

/-- what `libwifi_parse_radiotap_rssi` returns on any buffer that holds the header its own length field
announces (`f`: any fuel that suffices for the chain of present words): 0 when the iterator's initialisation
refuses the header, otherwise the octet of the first field 5 the Spec's walk places — also for an `it_len`
above the 255 at which `libwifi_parse_radiotap_info` and `Spec.rtFields` stop -/
theorem parseRssi_eq (bs : Bytes) (f : Nat) (h4 : 4 ≤ bs.length) (hle : Spec.u16 bs 2 ≤ bs.length)
    (hf : Spec.u16 bs 2 < 4 + 4 * f) :
    parseRssi bs = .ok (
      if Spec.u16 bs 2 < 8 ∨ Spec.u8 bs 0 ≠ 0 then 0
      else match Spec.presentWords bs (Spec.u16 bs 2) f 4 with
        | none => 0
        | some ws => firstSignal bs (walkFields bs (Spec.u16 bs 2) ws)) := by
  unfold parseRssi
  rw [le16At_u16 h4, Outcome.bind_ok]
  by_cases h8 : Spec.u16 bs 2 < 8
  · rw [C09.rtInit_short h8, if_pos (Or.inl h8)]
  · rw [C09.rtInit_eq bs _ f (Nat.le_of_not_lt h8) hle hf]
    by_cases hv : Spec.u8 bs 0 ≠ 0
    · rw [if_pos (Or.inl hv), if_pos (Or.inr hv)]
    · rw [if_neg (fun h => h.elim hv (Nat.lt_irrefl _)), if_neg (fun h => h8 h.1), if_neg (fun h => h.elim h8 hv)]
      cases hws : Spec.presentWords bs (Spec.u16 bs 2) f 4 with
      | none => rfl
      | some ws =>
        simp only []
        rw [rssiLoop_reports _ (reports_init hle hws) (fuel_suffices hle) (fun h => absurd rfl h), firstSignal_cons]
        rfl

/-- **C09 (rssi)** `libwifi_parse_radiotap_rssi(frame)` — the entry point that takes no length and
walks the header with the iterator until it meets a field whose index is 5 — returns, for every
radiotap header the Spec accepts (any number of present words, namespace resets, vendor namespaces,
undefined fields, fields running past `it_len`), exactly the signal of the declarative reading: the
octet of the FIRST dBm-antenna-signal field of the radiotap namespace, and 0 when the header carries
none.  In particular it neither faults nor returns early on such a header, fields of a vendor
namespace whose number happens to be 5 are not mistaken for a signal, and a later per-antenna signal
never replaces the frame's own.  (`signal` is the unsigned octet on both sides; the C returns it as
`int8_t`, the same octet read as two's complement.) -/
theorem C09_rssi (bs : Bytes) (itLen : Nat) (fields : List Spec.RtField)
    (h : Spec.rtFields bs = some (itLen, fields)) :
    parseRssi bs = .ok (Spec.rtValues bs itLen fields Gen.m_LIBWIFI_MAX_RADIOTAP_ANTENNAS).signal := by
  obtain ⟨h8, hv, rfl, hi8, hile, hi255, ws, hws, rfl⟩ := rtFields_some h
  rw [parseRssi_eq bs 64 (Nat.le_trans (by decide) h8) hile (Nat.lt_of_le_of_lt hi255 (by decide)),
    if_neg (not_or.2 ⟨Nat.not_lt.2 hi8, not_not_intro hv⟩), hws, rtValues_signal]

/-- **C09 (rssi = info.signal)** the two entry points agree: on every header the Spec accepts,
`libwifi_parse_radiotap_info` succeeds and the `signal` member it stores is the value
`libwifi_parse_radiotap_rssi` returns for the same bytes -/
theorem C09_rssi_eq_info (bs : Bytes) (itLen : Nat) (fields : List Spec.RtField)
    (h : Spec.rtFields bs = some (itLen, fields)) :
    ∃ info, parseRadiotapInfo bs = .ok info ∧ parseRssi bs = .ok info.signal := by
  obtain ⟨info, h1, h2⟩ := C09_decode_full bs itLen fields h
  refine ⟨info, h1, ?_⟩
  rw [C09_rssi bs itLen fields h, ← h2]
  rfl

/-! One signal field (-48 dBm = 0xd0 = 208). -/
example : Spec.rtFields [0, 0, 9, 0, 0x20, 0, 0, 0, 0xd0] = some (9, [⟨5, 8⟩]) ∧
    parseRssi [0, 0, 9, 0, 0x20, 0, 0, 0, 0xd0] = .ok 208 ∧
    (Spec.rtValues [0, 0, 9, 0, 0x20, 0, 0, 0, 0xd0] 9 [⟨5, 8⟩] Gen.m_LIBWIFI_MAX_RADIOTAP_ANTENNAS).signal = 208 := by
  decide +kernel

/-! The frame's own signal (0xd0), then a namespace reset (bits 29 and 31) and in the second word a
per-antenna signal (0xc4) with its antenna number: the result is the FIRST signal. -/
example : Spec.rtFields [0, 0, 15, 0, 0x20, 0, 0, 0xa0, 0x20, 0x08, 0, 0, 0xd0, 0xc4, 1] =
      some (15, [⟨5, 12⟩, ⟨5, 13⟩, ⟨11, 14⟩]) ∧
    parseRssi [0, 0, 15, 0, 0x20, 0, 0, 0xa0, 0x20, 0x08, 0, 0, 0xd0, 0xc4, 1] = .ok 208 ∧
    (Spec.rtValues [0, 0, 15, 0, 0x20, 0, 0, 0xa0, 0x20, 0x08, 0, 0, 0xd0, 0xc4, 1] 15 [⟨5, 12⟩, ⟨5, 13⟩, ⟨11, 14⟩]
      Gen.m_LIBWIFI_MAX_RADIOTAP_ANTENNAS).signal = 208 ∧
    (Spec.rtValues [0, 0, 15, 0, 0x20, 0, 0, 0xa0, 0x20, 0x08, 0, 0, 0xd0, 0xc4, 1] 15 [⟨5, 12⟩, ⟨5, 13⟩, ⟨11, 14⟩]
      Gen.m_LIBWIFI_MAX_RADIOTAP_ANTENNAS).antennas = [(1, 0xc4)] := by
  decide +kernel

/-! No signal field (FLAGS only): 0. -/
example : Spec.rtFields [0, 0, 9, 0, 2, 0, 0, 0, 0x12] = some (9, [⟨1, 8⟩]) ∧
    parseRssi [0, 0, 9, 0, 2, 0, 0, 0, 0x12] = .ok 0 ∧
    (Spec.rtValues [0, 0, 9, 0, 2, 0, 0, 0, 0x12] 9 [⟨1, 8⟩] Gen.m_LIBWIFI_MAX_RADIOTAP_ANTENNAS).signal = 0 := by
  decide +kernel

/-! A vendor namespace (skip length 2) whose word names a field number 5: not a signal.  With a
reset to the radiotap namespace and a third word carrying field 5 the result is that octet (0xb0);
without the reset (the chain ends in the vendor namespace) the result is 0. -/
example : Spec.rtFields [0, 0, 25, 0, 0, 0, 0, 0xc0, 0x20, 0, 0, 0xa0, 0x20, 0, 0, 0,
      0xaa, 0xbb, 0xcc, 1, 2, 0, 0x77, 0x77, 0xb0] = some (25, [⟨5, 24⟩]) ∧
    parseRssi [0, 0, 25, 0, 0, 0, 0, 0xc0, 0x20, 0, 0, 0xa0, 0x20, 0, 0, 0,
      0xaa, 0xbb, 0xcc, 1, 2, 0, 0x77, 0x77, 0xb0] = .ok 0xb0 := by
  decide +kernel

example : Spec.rtFields [0, 0, 25, 0, 0, 0, 0, 0xc0, 0x20, 0, 0, 0, 0x20, 0, 0, 0,
      0xaa, 0xbb, 0xcc, 1, 2, 0, 0x77, 0x77, 0xb0] = some (25, []) ∧
    parseRssi [0, 0, 25, 0, 0, 0, 0, 0xc0, 0x20, 0, 0, 0, 0x20, 0, 0, 0,
      0xaa, 0xbb, 0xcc, 1, 2, 0, 0x77, 0x77, 0xb0] = .ok 0 := by
  decide +kernel

end LWV.Props.C09Rssi
