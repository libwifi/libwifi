import LWV.Props.C14Full
/-
C14 / C15 for the two extraction routines that allocate: `libwifi_parse_data` (body copy) and
`libwifi_get_wpa_data` (key-data copy), each followed by its documented release
(`libwifi_free_data`, `libwifi_free_wpa_data`), alone and inside the classify / parse / extract /
release pipeline.

Everything is stated for an ARBITRARY fault schedule `σ : Nat → Bool`, an arbitrary frame / byte
string and an arbitrary starting ledger `h` with `Clean h own`, so the statements compose with
those of `LWV.Props.C14Full`.

For each routine three statements (Props/C15Parse.lean has the same three for the management parsers):
`*_release_clean`: at most one block is allocated and it is released exactly once, so the ledger is restored
whether the frame is rejected, the allocation is refused or the call succeeds; `*_release_result`: the call
returns what the fault-free routine returns or reports `-ENOMEM`, the latter only where there was a copy to
lose; `*_release_nf`: under the never-failing schedule it returns what the pure model returns.
-/
namespace LWV.Props.C14Parse
open LWV LWV.Model LWV.Heap LWV.Props.C14Full

theorem malloc_nf_some (n : Nat) (h : H) : ((malloc nf n).run h).1 = some h.next := by
  simp only [malloc_fst, nf, Bool.false_eq_true, if_false]

theorem data_release_clean (σ : Nat → Bool) (f : Frame) (h : H) (own : List Nat) (c : Clean h own) :
    Clean ((parseDataReleaseH σ f).run h).2 own := by
  rw [parseDataReleaseH_eq]
  exact scratch_clean c

theorem wpa_release_clean (σ : Nat → Bool) (f : Frame) (h : H) (own : List Nat) (c : Clean h own) :
    Clean ((wpaDataReleaseH σ f).run h).2 own := by
  rw [wpaDataReleaseH_eq]
  exact scratch_clean c

/-- `-ENOMEM` only on a frame the fault-free routine accepts: the body copy is the only thing that can be
lost, and its loss is reported -/
theorem data_release_result (σ : Nat → Bool) (f : Frame) (h : H) :
    ((parseDataReleaseH σ f).run h).1 = parseData f ∨
    (((parseDataReleaseH σ f).run h).1 = .err (-ENOMEM) ∧ ∃ d, parseData f = .ok d) := by
  rw [parseDataReleaseH_eq]
  exact scratch_result.imp_right (.imp_right fun ⟨_, hn⟩ => dataAllocSize_some hn)

/-- `-ENOMEM` only on a frame the fault-free routine accepts with a positive (clamped) key-data length -/
theorem wpa_release_result (σ : Nat → Bool) (f : Frame) (h : H) :
    ((wpaDataReleaseH σ f).run h).1 = getWpaData f ∨
    (((wpaDataReleaseH σ f).run h).1 = .err (-ENOMEM) ∧ ∃ d, getWpaData f = .ok d ∧ 0 < d.keyDataLength) := by
  rw [wpaDataReleaseH_eq]
  exact scratch_result.imp_right (.imp_right fun ⟨_, hn⟩ => wpaAllocSize_some hn)

theorem data_release_nf (f : Frame) (h : H) : ((parseDataReleaseH nf f).run h).1 = parseData f := by
  rw [parseDataReleaseH_eq]
  exact scratch_nf

theorem wpa_release_nf (f : Frame) (h : H) : ((wpaDataReleaseH nf f).run h).1 = getWpaData f := by
  rw [wpaDataReleaseH_eq]
  exact scratch_nf

theorem data_release_never_fail (f : Frame) (h : H) :
    ((parseDataReleaseH (fun _ => false) f).run h).1 = parseData f := data_release_nf f h

theorem wpa_release_never_fail (f : Frame) (h : H) :
    ((wpaDataReleaseH (fun _ => false) f).run h).1 = getWpaData f := wpa_release_nf f h

def extractClassified (σ : Nat → Bool) (fh : FrameH) : M Unit :=
  match fh.f with
  | some f => do
    let _ ← wpaDataReleaseH σ f
    let _ ← parseDataReleaseH σ f
    pure ()
  | none => pure ()

/-- `libwifi_get_wifi_frame`, every management parser in `ks`, `libwifi_get_wpa_data` +
`libwifi_free_wpa_data`, `libwifi_parse_data` + `libwifi_free_data`, `libwifi_free_wifi_frame` -/
def extractPipeline (σ : Nat → Bool) (rt : Bool) (bs : Bytes) (ks : List MKind) : M Unit := do
  let (_, fh) ← classifyH σ rt bs
  parseClassified σ ks fh
  extractClassified σ fh
  freeFrameH fh

theorem extractClassified_inv (σ : Nat → Bool) (fh : FrameH) (h : H) (own : List Nat) (i : FrameInv fh h own) :
    FrameInv fh ((extractClassified σ fh).run h).2 own := by
  refine { i with clean := ?_ }
  unfold extractClassified
  cases fh.f with
  | none => exact i.clean
  | some f =>
    show Clean ((parseDataReleaseH σ f).run ((wpaDataReleaseH σ f).run h).2).2 _
    exact data_release_clean σ f _ _ (wpa_release_clean σ f h _ i.clean)

theorem extractPipeline_clean (σ : Nat → Bool) (rt : Bool) (bs : Bytes) (ks : List MKind) (h : H) (own : List Nat)
    (c : Clean h own) : Clean ((extractPipeline σ rt bs ks).run h).2 own :=
  freeFrameH_clean _ _ own
    (extractClassified_inv σ _ _ own (parseClassified_inv σ ks _ _ own (classifyH_inv σ rt bs h own c)))

/-- for EVERY byte string, both radiotap modes, every list of parsers and EVERY fault
schedule: `libwifi_get_wifi_frame`, then all parsers, then `libwifi_get_wpa_data` /
`libwifi_free_wpa_data`, then `libwifi_parse_data` / `libwifi_free_data`, then
`libwifi_free_wifi_frame`, from the empty ledger, leaves no library block allocated and releases
nothing twice or invalidly -/
theorem C14_extract_pipeline (σ : Nat → Bool) (rt : Bool) (bs : Bytes) (ks : List MKind) :
    let r := (extractPipeline σ rt bs ks).run {}
    r.2.live = [] ∧ r.2.bad = 0 :=
  clean_nil_live (extractPipeline_clean σ rt bs ks {} [] clean_init)

/-- a data frame (type 2, subtype 0): 24 header octets, 3 body octets -/
def dat : Bytes := [0x08, 0] ++ List.replicate 22 0 ++ [1, 2, 3]

/-- what `libwifi_get_wifi_frame` makes of `dat` -/
def datF : Frame :=
  { flags := 0, fc := [0x08, 0], len := 27, headerLen := 24, header := [0x08, 0] ++ List.replicate 22 0,
    body := [1, 2, 3], radiotap := none }

/-- a data frame carrying an EAPOL key message: 24 header octets, LLC/SNAP with the 802.1X type, 99 octets
of fixed key fields declaring 2 octets of key data, and those 2 octets -/
def eap : Bytes :=
  [0x08, 0] ++ List.replicate 22 0 ++ [0xaa, 0xaa, 3, 0, 0, 0, 0x88, 0x8e] ++ List.replicate 97 0 ++ [0, 2] ++ [7, 9]

/-- what `libwifi_get_wifi_frame` makes of `eap` -/
def eapF : Frame :=
  { flags := 0, fc := [0x08, 0], len := 133, headerLen := 24, header := [0x08, 0] ++ List.replicate 22 0,
    body := [0xaa, 0xaa, 3, 0, 0, 0, 0x88, 0x8e] ++ List.replicate 97 0 ++ [0, 2] ++ [7, 9], radiotap := none }

def failFirst : Nat → Bool := fun n => n == 0

example : classify false dat = .ok datF ∧ classify false eap = .ok eapF := by decide +kernel

/-- the data routine accepts `datF` (so the `∃ d` of `data_release_result` is inhabited) -/
example : parseData datF = .ok ⟨List.replicate 6 0, List.replicate 6 0, [1, 2, 3]⟩ := by decide +kernel

/-- the body copy cannot be allocated: `libwifi_parse_data` reports `-ENOMEM`, one request, one fault,
nothing live, nothing released -/
example :
    let r := (parseDataReleaseH failFirst datF).run {}
    r.1 = .err (-ENOMEM) ∧ r.2.reqs = 1 ∧ r.2.faults = 1 ∧ r.2.live = [] ∧ r.2.bad = 0 := by decide +kernel

/-- fault-free: the pure result, one request, the block released -/
example :
    let r := (parseDataReleaseH nf datF).run {}
    r.1 = parseData datF ∧ r.1.isOk = true ∧ r.2.reqs = 1 ∧ r.2.faults = 0 ∧ r.2.live = [] ∧ r.2.bad = 0 := by
  decide +kernel

/-- the EAPOL routine accepts `eapF` with a positive key-data length (so the ENOMEM clause of
`wpa_release_result` is inhabited) and a lost key-data copy is reported as `-ENOMEM` -/
example :
    (∃ d, getWpaData eapF = .ok d ∧ d.keyDataLength = 2 ∧ d.keyData = [7, 9]) ∧
    ((wpaDataReleaseH failFirst eapF).run {}).1 = .err (-ENOMEM) ∧
    ((wpaDataReleaseH failFirst eapF).run {}).2.live = [] ∧
    ((wpaDataReleaseH nf eapF).run {}).1 = getWpaData eapF ∧
    ((wpaDataReleaseH nf eapF).run {}).2.reqs = 1 ∧ ((wpaDataReleaseH nf eapF).run {}).2.live = [] := by
  refine ⟨⟨_, rfl, ?_, ?_⟩, ?_⟩ <;> decide +kernel

/-- the data routine rejects a management frame without allocating -/
example :
    let r := (parseDataReleaseH failFirst { datF with fc := [0x80, 0] }).run {}
    r.1 = .err (-EINVAL) ∧ r.2.reqs = 0 := by decide +kernel

/-- the whole extraction pipeline on the EAPOL frame, fault-free: three requests (frame body, key data,
data body), all released -/
example :
    let r := (extractPipeline nf false eap [.beacon]).run {}
    r.2.live = [] ∧ r.2.bad = 0 ∧ r.2.reqs = 3 ∧ r.2.faults = 0 := by decide +kernel

/-- that pipeline with the second request (the key-data copy) refused: the data extraction still
runs, everything is released -/
example :
    let r := (extractPipeline (fun n => n == 1) false eap [.beacon]).run {}
    r.2.live = [] ∧ r.2.bad = 0 ∧ r.2.reqs = 3 ∧ r.2.faults = 1 := by decide +kernel

/-- that pipeline with the first request (the frame's body copy) refused: no frame, no parser, no
extraction -/
example :
    let r := (extractPipeline failFirst false eap [.beacon]).run {}
    r.2.live = [] ∧ r.2.bad = 0 ∧ r.2.reqs = 1 ∧ r.2.faults = 1 := by decide +kernel

end LWV.Props.C14Parse
