import LWV.Props.Shape
import LWV.Props.C04
import LWV.Lemmas.Walk
import LWV.Lemmas.Encode
/-
C04 (positive clause) and C08 (frame-level summary) — the management parsers report exactly what
the declarative Spec says, for EVERY frame of the parser's own subtype.

The Spec folds a step with refusal over (number, body) pairs; the parsers loop over the offsets the
iterator reports (`elemOf` converts; `visibleElems tags` is what the iterator shows, which is all of
`Spec.parse tags` when no inner element is empty).  One element of the loop simulates one step of
the fold (`Sim`), hence the loop the fold (`Lemmas/Walk`), hence each parser decides
`Spec.bssReport` / `Spec.staReport` of the visible elements.  The security summary is then read off
the fold alone.
-/
namespace LWV.Props.C04Full
open LWV LWV.Model LWV.Props.C08

/-! The compiled enumeration tables give the Spec's flags: `Gen.rsnEnum` / `Gen.wpaEnum` are three
blocks (group, pairwise, AKM) under one OUI class each, and a lookup at position `i` is a lookup in
block `i`. -/

theorem orAll_cons (x : Nat) (l : List Nat) : Spec.orAll (x :: l) = x ||| Spec.orAll l := by
  unfold Spec.orAll
  rw [List.foldl_cons, Nat.or_comm, List.foldl_assoc]

theorem foldl_or {α} (f : α → Nat) (l : List α) (a : Nat) :
    l.foldl (fun acc s => acc ||| f s) a = a ||| Spec.orAll (l.map f) := by
  induction l generalizing a with
  | nil => exact (Nat.or_zero a).symm
  | cons x t ih =>
    rw [List.foldl_cons, ih, List.map_cons, orAll_cons, Nat.or_assoc]

theorem ouiKind_eq (oui : Bytes) :
    ouiKind oui = if oui = Spec.ieeeOui then 0 else if oui = Spec.msOui then 1 else 2 := by
  obtain ⟨_, _, h1, h2, _⟩ := C08_tables
  unfold ouiKind; rw [h1, h2]

/-- what `enumLookup` finds, before the default -/
def enumFind (table : List (Nat × Nat × Nat × Nat)) (pos : Nat) (s : Suite) : Option Nat :=
  (table.find? (fun e => e.1 == pos && e.2.1 == ouiKind s.oui && e.2.2.1 == s.ty)).map (·.2.2.2)

theorem enumLookup_eq (table : List (Nat × Nat × Nat × Nat)) (pos : Nat) (s : Suite) :
    enumLookup table pos s = (enumFind table pos s).getD 0 := by
  unfold enumLookup enumFind
  split <;> simp [*]

theorem enumFind_append (t u : List (Nat × Nat × Nat × Nat)) (pos : Nat) (s : Suite) :
    enumFind (t ++ u) pos s = (enumFind t pos s).or (enumFind u pos s) := by
  unfold enumFind
  rw [List.find?_append, Option.map_or]

/-- one block of a table: position `p`, OUI class `k`, selector → flags by `g` -/
theorem enumFind_block (p k : Nat) (g : Nat × Nat → Nat) (t : List (Nat × Nat)) (pos : Nat) (s : Suite) :
    enumFind (t.map (fun e => (p, k, e.1, g e))) pos s =
      if pos = p ∧ ouiKind s.oui = k then (t.lookup s.ty).map (fun b => g (s.ty, b)) else none := by
  unfold enumFind
  by_cases h : pos = p ∧ ouiKind s.oui = k
  · obtain ⟨rfl, rfl⟩ := h
    rw [if_pos ⟨rfl, rfl⟩]
    induction t with
    | nil => rfl
    | cons e t ih =>
      obtain ⟨a, b⟩ := e
      rw [List.map_cons, List.find?_cons, List.lookup_cons]
      by_cases ha : s.ty = a
      · subst ha; simp
      · have h1 : (s.ty == a) = false := beq_false_of_ne ha
        have h2 : (a == s.ty) = false := beq_false_of_ne (Ne.symm ha)
        simp only [h1, h2, Bool.and_false]
        exact ih
  · rw [if_neg h, List.find?_map, Option.map_eq_none_iff, Option.map_eq_none_iff, List.find?_eq_none]
    intro e _ he
    simp only [Function.comp, Bool.and_eq_true, beq_iff_eq] at he
    exact h ⟨he.1.1.symm, he.1.2.symm⟩

/-- one table, three blocks: position `i` looks in block `i`, and only under the table's OUI class -/
theorem enumLookup_blocks (k : Nat) (g0 g1 g2 : Nat × Nat → Nat) (t0 t1 t2 : List (Nat × Nat))
    (pos : Nat) (s : Suite) :
    enumLookup (t0.map (fun e => (0, k, e.1, g0 e)) ++ t1.map (fun e => (1, k, e.1, g1 e)) ++
        t2.map (fun e => (2, k, e.1, g2 e))) pos s =
      if ouiKind s.oui = k then
        (if pos = 0 then (match t0.lookup s.ty with | some b => g0 (s.ty, b) | none => 0)
         else if pos = 1 then (match t1.lookup s.ty with | some b => g1 (s.ty, b) | none => 0)
         else if pos = 2 then (match t2.lookup s.ty with | some b => g2 (s.ty, b) | none => 0)
         else 0)
      else 0 := by
  rw [enumLookup_eq, enumFind_append, enumFind_append, enumFind_block, enumFind_block, enumFind_block]
  by_cases hk : ouiKind s.oui = k
  · simp only [hk, and_true, if_true]
    by_cases h0 : pos = 0
    · subst h0; cases List.lookup s.ty t0 <;> rfl
    · by_cases h1 : pos = 1
      · subst h1; cases List.lookup s.ty t1 <;> rfl
      · by_cases h2 : pos = 2
        · subst h2; cases List.lookup s.ty t2 <;> rfl
        · simp only [h0, h1, h2, if_false]; rfl
  · simp only [hk, and_false, if_false]; rfl

theorem ouiKind_iff (oui : Bytes) : (ouiKind oui = 0 ↔ oui = Spec.ieeeOui) ∧ (ouiKind oui = 1 ↔ oui = Spec.msOui) := by
  rw [ouiKind_eq]
  by_cases h0 : oui = Spec.ieeeOui
  · subst h0; decide
  · by_cases h1 : oui = Spec.msOui
    · subst h1; decide
    · simp only [h0, h1, if_false]; decide

theorem enumLookup_rsn (pos : Nat) (s : Suite) :
    enumLookup Gen.rsnEnum pos s =
      if s.oui = Spec.ieeeOui then
        (if pos = 0 then Spec.lookupBit Spec.rsnGroupBit s.ty
         else if pos = 1 then Spec.lookupBit Spec.rsnPairwiseBit s.ty
         else if pos = 2 then (match Spec.akmBit.lookup s.ty with
            | some b => Spec.bit b ||| Spec.bit (Spec.rsnGeneration s.ty) | none => 0)
         else 0)
      else 0 := by
  rw [C08_tables.1]
  unfold rsnExpected
  rw [enumLookup_blocks]
  exact ite_congr (propext (ouiKind_iff s.oui).1) (fun _ => rfl) fun _ => rfl

theorem wpaAkm_val (ty : Nat) (h : ty ∈ Spec.wpaAkmSel) :
    Spec.lookupBit Spec.akmBit ty ||| Spec.bit 2 =
      (match Spec.akmBit.lookup ty with | some b => Spec.bit b ||| Spec.bit 2 | none => 0) := by
  simp only [Spec.wpaAkmSel, List.mem_cons, List.not_mem_nil, or_false] at h
  rcases h with rfl | rfl | rfl | rfl | rfl <;> rfl

theorem enumLookup_wpa (pos : Nat) (s : Suite) :
    enumLookup Gen.wpaEnum pos s =
      if s.oui = Spec.msOui then
        (if pos = 0 then Spec.lookupBit Spec.wpaMulticastBit s.ty
         else if pos = 1 then Spec.lookupBit Spec.wpaUnicastBit s.ty
         else if pos = 2 then
           (if s.ty ∈ Spec.wpaAkmSel then
             (match Spec.akmBit.lookup s.ty with | some b => Spec.bit b ||| Spec.bit 2 | none => 0) else 0)
         else 0)
      else 0 := by
  have h2 : Spec.wpaAkmSel.map (fun s => (2, 1, s, Spec.lookupBit Spec.akmBit s ||| Spec.bit 2)) =
      (Spec.wpaAkmSel.map (fun a => (a, Spec.lookupBit Spec.akmBit a ||| Spec.bit 2))).map
        (fun e => (2, 1, e.1, e.2)) := by
    rfl
  rw [C08_tables.2.1]
  unfold wpaExpected
  rw [h2, enumLookup_blocks, lookup_graph]
  refine ite_congr (propext (ouiKind_iff s.oui).2) (fun _ => ?_) fun _ => rfl
  by_cases hm : s.ty ∈ Spec.wpaAkmSel
  · rw [if_pos hm, if_pos hm, wpaAkm_val s.ty hm]
    rfl
  · rw [if_neg hm, if_neg hm]
    rfl

/-- the correspondence `C08_rsn_decode` establishes between the stored and the declarative decode -/
def RsnRel (i : RsnInfo) (d : Spec.RsnDecoded) : Prop :=
  i.version = d.version ∧ toSel i.group = d.group ∧ i.pairwise.map toSel = d.pairwise ∧
    i.akms.map toSel = d.akms ∧ i.caps = d.caps

def WpaRel (i : WpaInfo) (d : Spec.WpaDecoded) : Prop :=
  i.version = d.version ∧ toSel i.multicast = d.multicast ∧ i.unicast.map toSel = d.unicast ∧
    i.akms.map toSel = d.akms

theorem enumerate_fold (table : List (Nat × Nat × Nat × Nat)) (f0 f1 f2 : Spec.SuiteSel → Nat)
    (h0 : ∀ s, enumLookup table 0 s = f0 (toSel s)) (h1 : ∀ s, enumLookup table 1 s = f1 (toSel s))
    (h2 : ∀ s, enumLookup table 2 s = f2 (toSel s))
    {g : Suite} {pw ak : List Suite} {dg : Spec.SuiteSel} {dp da : List Spec.SuiteSel}
    (hg : toSel g = dg) (hp : pw.map toSel = dp) (ha : ak.map toSel = da) :
    ak.foldl (fun acc s => acc ||| enumLookup table 2 s)
        (pw.foldl (fun acc s => acc ||| enumLookup table 1 s) (enumLookup table 0 g)) =
      f0 dg ||| Spec.orAll (dp.map f1) ||| Spec.orAll (da.map f2) := by
  rw [foldl_or, foldl_or, h0, funext h1, funext h2, ← hg, ← hp, ← ha, List.map_map, List.map_map]
  rfl

/-- **C08 (enumeration, RSN)** the flags the compiled enumeration routine ORs into the summary
are the Spec's flags of the decoded element — for arbitrary suite lists and selector values -/
theorem enumerateRsn_eq (i : RsnInfo) (d : Spec.RsnDecoded) (h : RsnRel i d) :
    enumerateRsn i = Spec.rsnFlags d := by
  obtain ⟨_, hg, hp, ha, _⟩ := h
  exact enumerate_fold Gen.rsnEnum
    (fun s => if s.oui = Spec.ieeeOui then Spec.lookupBit Spec.rsnGroupBit s.ty else 0) _ _
    (fun s => by rw [enumLookup_rsn]; rfl) (fun s => by rw [enumLookup_rsn]; rfl)
    (fun s => by rw [enumLookup_rsn]; rfl) hg hp ha

theorem enumerateWpa_eq (i : WpaInfo) (d : Spec.WpaDecoded) (h : WpaRel i d) :
    enumerateWpa i = Spec.wpaFlags d := by
  obtain ⟨_, hg, hp, ha⟩ := h
  exact enumerate_fold Gen.wpaEnum
    (fun s => if s.oui = Spec.msOui then Spec.lookupBit Spec.wpaMulticastBit s.ty else 0) _ _
    (fun s => by rw [enumLookup_wpa]; rfl) (fun s => by rw [enumLookup_wpa]; rfl)
    (fun s => by rw [enumLookup_wpa, ite_and]; rfl) hg hp ha

def elemOf (tags : Bytes) (e : Spec.ElemAt) : Spec.Elem := ⟨e.num, (tags.drop (e.off + 2)).take e.len⟩

theorem elemOf_length {tags : Bytes} {e : Spec.ElemAt} (he : e.off + 2 + e.len ≤ tags.length) :
    (elemOf tags e).body.length = e.len := by
  unfold elemOf
  rw [List.length_take, List.length_drop]
  exact Nat.min_eq_left (Nat.le_sub_of_add_le' he)

/-- the Spec's per-element step (the lambda of `Spec.bssReport`), with the number match written as a chain of tests -/
def specStep (r : Spec.BssReport) (e : Spec.Elem) : Option Spec.BssReport :=
  if e.num.toNat = 0 then
    some { r with ssid := Spec.overlay r.ssid e.body, hidden := if e.body.isEmpty ∨ (e.body.take 32).all (· == 0) then 1 else 0 }
  else if e.num.toNat = 3 ∨ e.num.toNat = 61 then
    some (if e.body.isEmpty then r else { r with channel := (e.body.getD 0 0).toNat })
  else if e.num.toNat = 48 then
    (Spec.rsnDecode e.body).map fun d => { r with enc := (if r.enc = 2 then 0 else r.enc) ||| Spec.rsnFlags d, rsn := some d }
  else if e.num.toNat = 221 then
    if e.body.length ≥ 4 ∧ e.body.take 3 = Spec.msOui then
      if (e.body.getD 3 0).toNat = 1 then
        (Spec.wpaDecode (e.body.drop 4)).map fun d =>
          { r with enc := ((if r.enc = 2 then 0 else r.enc) ||| 4) ||| Spec.wpaFlags d, wpa := some d }
      else if (e.body.getD 3 0).toNat = 4 then some { r with wps := 1 }
      else some r
    else some r
  else some r

def specInit (privacy : Bool) : Spec.BssReport :=
  { ssid := List.replicate 33 0, hidden := 0, channel := 0, wps := 0, enc := if privacy then 2 else 0, rsn := none, wpa := none }

theorem bssReport_eq (privacy : Bool) (es : List Spec.Elem) :
    Spec.bssReport privacy es = foldOpt specStep (some (specInit privacy)) es := by
  unfold Spec.bssReport specInit
  congr 1
  funext acc e
  congr 1
  funext r
  -- the arms of the Spec's `match` on the element number against the chain of tests: in an arm the
  -- number is known, so the chain evaluates
  split
  · rename_i h; rw [specStep, h]; rfl
  · rename_i h; rw [specStep, h]; rfl
  · rename_i h; rw [specStep, h]; rfl
  · rename_i h; rw [specStep, h]; rfl
  · rename_i h
    unfold specStep
    simp only [h, Nat.reduceEqDiff, or_self, if_false, if_true]
    refine ite_congr rfl (fun _ => ?_) (fun _ => rfl)
    split
    · rename_i h1; rw [if_pos h1]
    · rename_i h1; rw [if_neg (by rw [h1]; decide), if_pos h1]
    · rename_i h1 h4; rw [if_neg h1, if_neg h4]
  · rename_i h0 h3 h61 h48 h221
    rw [specStep, if_neg h0, if_neg (fun h => h.elim h3 h61), if_neg h48, if_neg h221]

/-! the WEP bit is never contributed by an RSN / WPA element -/

theorem or_and_two (a b : Nat) : (a ||| b) &&& 2 = 0 ↔ a &&& 2 = 0 ∧ b &&& 2 = 0 := by
  rw [Nat.and_or_distrib_right, Nat.or_eq_zero_iff]

theorem lookup_noWep {t : List (Nat × Nat)} {g : Nat → Nat} {ty : Nat} (ht : ∀ e ∈ t, g e.2 &&& 2 = 0) :
    (match t.lookup ty with | some b => g b | none => 0) &&& 2 = 0 := by
  cases h : t.lookup ty with
  | none => exact Nat.zero_and 2
  | some b => exact ht (ty, b) (mem_of_lookup_eq_some h)

theorem orAll_noWep {α} {f : α → Nat} {l : List α} (hf : ∀ x, f x &&& 2 = 0) : Spec.orAll (l.map f) &&& 2 = 0 := by
  induction l with
  | nil => exact Nat.zero_and 2
  | cons x t ih => rw [List.map_cons, orAll_cons, or_and_two]; exact ⟨hf x, ih⟩

theorem tables_noWep :
    (∀ e ∈ Spec.rsnGroupBit, Spec.bit e.2 &&& 2 = 0) ∧ (∀ e ∈ Spec.rsnPairwiseBit, Spec.bit e.2 &&& 2 = 0) ∧
    (∀ e ∈ Spec.akmBit, Spec.bit e.2 &&& 2 = 0) ∧ (∀ e ∈ Spec.wpaMulticastBit, Spec.bit e.2 &&& 2 = 0) ∧
    (∀ e ∈ Spec.wpaUnicastBit, Spec.bit e.2 &&& 2 = 0) := by decide +kernel

theorem ite_noWep {c : Prop} [Decidable c] {a : Nat} (h : a &&& 2 = 0) : (if c then a else 0) &&& 2 = 0 := by
  split
  · exact h
  · exact Nat.zero_and 2

theorem rsnFlags_noWep (d : Spec.RsnDecoded) : Spec.rsnFlags d &&& 2 = 0 := by
  obtain ⟨hg, hp, ha, _, _⟩ := tables_noWep
  have hgen (ty : Nat) : Spec.bit (Spec.rsnGeneration ty) &&& 2 = 0 := by unfold Spec.rsnGeneration; split <;> decide
  unfold Spec.rsnFlags
  rw [or_and_two, or_and_two]
  exact ⟨⟨ite_noWep (lookup_noWep hg), orAll_noWep fun _ => ite_noWep (lookup_noWep hp)⟩,
    orAll_noWep fun s => ite_noWep (lookup_noWep fun e he => (or_and_two _ _).mpr ⟨ha e he, hgen s.ty⟩)⟩

theorem wpaFlags_noWep (d : Spec.WpaDecoded) : Spec.wpaFlags d &&& 2 = 0 := by
  obtain ⟨_, _, ha, hg, hp⟩ := tables_noWep
  unfold Spec.wpaFlags
  rw [or_and_two, or_and_two]
  exact ⟨⟨ite_noWep (lookup_noWep hg), orAll_noWep fun _ => ite_noWep (lookup_noWep hp)⟩,
    orAll_noWep fun _ => ite_noWep (lookup_noWep fun e he => (or_and_two _ _).mpr ⟨ha e he, by decide⟩)⟩

theorem handleSsid_eq (old data : Bytes) :
    handleSsid old data = (Spec.overlay old data, if data.isEmpty ∨ (data.take 32).all (· == 0) then 1 else 0) := by
  have ht : data.take (min data.length 32) = data.take 32 := by
    rw [Nat.min_comm, ← List.take_eq_take_min]
  have he : data.length = 0 ↔ data.isEmpty = true := by
    rw [List.isEmpty_iff_length_eq_zero]
  unfold handleSsid Spec.overlay
  simp only [ht, he]

theorem WEP_eq : WEP = 2 := C08_tables.2.2.2.2.2.2.2.1

/-- **C08 (WEP clearing)** the C clears the flag by `encryption_info &= ~(unsigned int) WEP`, which
also drops bits 32..63 (the AKM flags).  It only runs while the summary is exactly WEP or has no
WEP bit (the invariant `Agrees.inv`), and there it is `if enc = 2 then 0 else enc`: the truncation
is never seen. -/
theorem clearWep_eq (enc : Nat) (h : enc = 2 ∨ enc &&& 2 = 0) :
    clearWep enc = (if enc = 2 then 0 else enc) ∧ clearWep enc &&& 2 = 0 := by
  unfold clearWep
  rw [WEP_eq]
  rcases h with rfl | h
  · decide
  · have hne : enc ≠ 2 := by intro e; rw [e] at h; exact absurd h (by decide)
    simp only [h, ne_eq, not_true_eq_false, if_false, hne, and_self]

theorem tag_consts : tagSsidN = 0 ∧ tagDsN = 3 ∧ tagHtOp = 61 ∧ tagRsn = 48 ∧ tagVendor = 221 := by
  obtain ⟨_, _, _, _, _, _, _, _, _, _, _, h⟩ := C04.C04_consts
  exact h

/-- the `inv` field of `Agrees`, as a predicate on `enc` -/
def EncInv (enc : Nat) : Prop := enc = 2 ∨ enc &&& 2 = 0

theorem clear_noWep {enc fl : Nat} (h : EncInv enc) (hfl : fl &&& 2 = 0) :
    ((if enc = 2 then 0 else enc) ||| fl) &&& 2 = 0 := by
  obtain ⟨hcw, hcw2⟩ := clearWep_eq enc h
  rw [← hcw, or_and_two]
  exact ⟨hcw2, hfl⟩

/-- the parser's record carries the Spec's report: the relation every C04 / C08 clause about a BSS frame is stated with -/
structure Agrees (b : Bss) (r : Spec.BssReport) : Prop where
  ssid : b.ssid = r.ssid
  hidden : b.hidden = r.hidden
  channel : b.channel = r.channel
  wps : b.wps = r.wps
  enc : b.enc = r.enc
  rsn : match r.rsn with | some d => RsnRel b.rsn d | none => b.rsn = {}
  wpa : match r.wpa with | some d => WpaRel b.wpa d | none => b.wpa = {}
  /-- the WEP flag is set only while it is the whole summary -/
  inv : r.enc = 2 ∨ r.enc &&& 2 = 0

/-- the fields the element handlers never touch -/
def SameEnvelope (b b' : Bss) : Prop :=
  b'.receiver = b.receiver ∧ b'.transmitter = b.transmitter ∧ b'.bssid = b.bssid ∧ b'.tags = b.tags

theorem Agrees.rsn_elem {b : Bss} {r : Spec.BssReport} (ha : Agrees b r) {i : RsnInfo} {d : Spec.RsnDecoded} (h : RsnRel i d) :
    Agrees { b with enc := clearWep b.enc ||| enumerateRsn i, rsn := i }
      { r with enc := (if r.enc = 2 then 0 else r.enc) ||| Spec.rsnFlags d, rsn := some d } :=
  { ha with
    enc := by rw [ha.enc, (clearWep_eq r.enc ha.inv).1, enumerateRsn_eq i d h]
    rsn := h
    inv := Or.inr (clear_noWep ha.inv (rsnFlags_noWep d)) }

theorem Agrees.wpa_elem {b : Bss} {r : Spec.BssReport} (ha : Agrees b r) {i : WpaInfo} {d : Spec.WpaDecoded} (h : WpaRel i d) :
    Agrees { b with enc := clearWep b.enc ||| 4 ||| enumerateWpa i, wpa := i }
      { r with enc := ((if r.enc = 2 then 0 else r.enc) ||| 4) ||| Spec.wpaFlags d, wpa := some d } :=
  { ha with
    enc := by rw [ha.enc, (clearWep_eq r.enc ha.inv).1, enumerateWpa_eq i d h]
    wpa := h
    inv := Or.inr ((or_and_two _ _).mpr ⟨clear_noWep ha.inv (by decide), wpaFlags_noWep d⟩) }

/-- the parsers test the element's length octet, the Spec the body -/
theorem ite_length_pos {α β} (l : List β) (x y : α) : (if l.length ≥ 1 then x else y) = if l.isEmpty then y else x := by
  cases l <;> rfl

/-- One element: once the constants are numerals and the length octet is the body's length, `bssElem`
and `specStep` are the same chain of tests (`Sim.ite`), so the results are compared branch by branch. -/
theorem bssElem_sim (tags : Bytes) {b0 b : Bss} {r : Spec.BssReport} (e : Spec.ElemAt)
    (he : e.off + 2 + e.len ≤ tags.length) (ha : Agrees b r) (env : SameEnvelope b0 b) :
    Sim (fun b' r' => Agrees b' r' ∧ SameEnvelope b0 b') (bssElem tags b e) (specStep r (elemOf tags e)) := by
  have hlen : e.len = ((tags.drop (e.off + 2)).take e.len).length := (elemOf_length he).symm
  obtain ⟨t0, t3, t61, t48, t221⟩ := tag_consts
  obtain ⟨_, _, _, hM, hWpaTy, hWpsTy, _, _, hWpa, _⟩ := C08_tables
  unfold bssElem specStep elemOf WPA
  rw [rdSlice_ok he, Outcome.bind_ok]
  generalize (tags.drop (e.off + 2)).take e.len = body at hlen
  simp only [t0, t3, t61, t48, t221, hM, hWpaTy, hWpsTy, hWpa, hlen, handleSsid_eq, ite_length_pos, apply_ite some]
  refine Sim.ite (fun _ => ?ssid) fun _ => Sim.ite (fun _ => ?chan) fun _ => Sim.ite (fun _ => ?rsn) fun _ =>
    Sim.ite (fun _ => Sim.ite (fun _ => Sim.ite (fun _ => ?wpa) fun _ => Sim.ite (fun _ => ?wps) fun _ => Sim.ok ⟨ha, env⟩)
      fun _ => Sim.ok ⟨ha, env⟩) fun _ => Sim.ok ⟨ha, env⟩
  case ssid => exact Sim.ok ⟨{ ha with ssid := by rw [ha.ssid], hidden := rfl }, env⟩
  case chan => exact Sim.ite (fun _ => Sim.ok ⟨ha, env⟩) fun _ => Sim.ok ⟨{ ha with channel := rfl }, env⟩
  case rsn =>
    -- the parser's own length test is the first test of `getRsnInfo`
    rw [ite_eq_right_iff.mpr fun h6 => by rw [show getRsnInfo body = .err (-EINVAL) from if_pos h6]]
    refine (getRsnInfo_sim body).elim (fun h => ?_) fun i d hi hrel => ?_
    · rw [h]; exact Sim.err
    · rw [hi, hrel]; exact Sim.ok ⟨ha.rsn_elem (ofRsn_sel d), env⟩
  case wpa =>
    refine (getWpaInfo_sim (body.drop 4)).elim (fun h => ?_) fun i d hi hrel => ?_
    · rw [h]; exact Sim.err
    · rw [hi, hrel]; exact Sim.ok ⟨ha.wpa_elem (ofWpa_sel d), env⟩
  case wps => exact Sim.ok ⟨{ ha with wps := rfl }, env⟩

theorem bssElem_step_iff (tags : Bytes) (b : Bss) (r : Spec.BssReport) (e : Spec.ElemAt)
    (he : e.off + 2 + e.len ≤ tags.length) (ha : Agrees b r) :
    specStep r (elemOf tags e) = none ↔ bssElem tags b e = .err (-EINVAL) :=
  (bssElem_sim tags e he ha ⟨rfl, rfl, rfl, rfl⟩).none_iff

/-- the elements a caller of the iterator sees in `tags`, as (number, body) pairs -/
def visibleElems (tags : Bytes) : List Spec.Elem := (Spec.visible (Spec.parseAt tags)).map (elemOf tags)

theorem walkTags_bss_sim (tags : Bytes) {b : Bss} {r : Spec.BssReport} (ha : Agrees b r) :
    Sim (fun p r' => ∃ b', p = .bss b' ∧ Agrees b' r' ∧ SameEnvelope b b') (walkTags tags (bssElem tags) b Parsed.bss)
      (if Spec.firstFits tags then foldOpt specStep (some r) (visibleElems tags) else none) :=
  walkTags_sim Parsed.bss (fun e he _ _ h => bssElem_sim tags e he h.1 h.2) b r ⟨ha, rfl, rfl, rfl, rfl⟩

/-- the walk from the initial record of `parseBssKind`, against `Spec.bssReport` itself -/
theorem walkTags_bssReport (tags : Bytes) (es : List Spec.ElemAt) (hr : reported tags = .ok es)
    (privacy : Bool) (b0 : Bss) (ha : Agrees b0 (specInit privacy)) :
    match Spec.bssReport privacy (es.map (elemOf tags)) with
    | none => walkTags tags (bssElem tags) b0 Parsed.bss = .err (-EINVAL)
    | some r => ∃ b, walkTags tags (bssElem tags) b0 Parsed.bss = .ok (.bss b) ∧ Agrees b r ∧ SameEnvelope b0 b := by
  have hw := walkTags_bss_sim tags ha
  rw [C06.C06_exact] at hr
  split at hr
  · rename_i hfit
    cases hr
    rw [if_pos hfit] at hw
    rw [bssReport_eq]
    exact hw.elim id fun _ _ hp hb => hb.elim fun b hb => ⟨b, hb.1 ▸ hp, hb.2⟩
  · cases hr

/-- bit 4 (Privacy) of the capability field whose low octet sits at `off` -/
def privacyBit (body : Bytes) (off : Nat) : Bool := decide ((body.getD off 0).toNat / 16 % 2 = 1)

theorem firstFits_length (bs : Bytes) (h : Spec.firstFits bs) : 2 ≤ bs.length := by
  match bs, h with
  | _ :: _ :: rest, _ => exact Nat.le_add_left 2 rest.length

theorem tagRegion_rest {len hl bl n : Nat} (hb : len = hl + bl) (hle : n ≤ bl) : n + (len - (hl + n)) = bl := by
  rw [hb, Nat.add_sub_add_left, Nat.add_sub_of_le hle]

theorem tagRegion_le {len hl bl n : Nat} (hb : len = hl + bl) (h : hl + n ≤ len) : n ≤ bl :=
  Nat.le_of_add_le_add_left (hb ▸ h)

/-- the length tests of the parsers refuse nothing that `Spec.firstFits` accepts -/
theorem firstFits_drop {f : Frame} (hb : f.len = f.headerLen + f.body.length) {n : Nat}
    (h : Spec.firstFits (f.body.drop n)) : f.headerLen + n + 2 ≤ f.len := by
  have h2 := firstFits_length _ h
  rw [List.length_drop] at h2
  rw [hb, Nat.add_assoc]
  exact Nat.add_le_add_left (Nat.lt_sub_iff_add_lt'.mp h2) _

theorem specInit_inv (p : Bool) : EncInv (specInit p).enc := by
  cases p
  · exact Or.inr (Nat.zero_and 2)
  · exact Or.inl rfl

theorem agrees_init (a1 a2 a3 tags body : Bytes) (capsOff : Nat) :
    Agrees ({ receiver := a1, transmitter := a2, bssid := a3,
              enc := if (body.getD capsOff 0).toNat / 16 % 2 = 1 then WEP else 0, tags := tags } : Bss)
      (specInit (privacyBit body capsOff)) := by
  refine ⟨rfl, rfl, rfl, rfl, ?_, rfl, rfl, specInit_inv _⟩
  unfold specInit privacyBit
  simp only [WEP_eq, decide_eq_true_eq]

theorem bssKind_sim (f : Frame) (hb : f.len = f.headerLen + f.body.length) (fixedLen capsOff : Nat) (hc : capsOff + 1 < fixedLen + 2)
    (a1 a2 a3 : Bytes) :
    Sim (fun p r => ∃ b, p = .bss b ∧ b.receiver = a1 ∧ b.transmitter = a2 ∧ b.bssid = a3 ∧
          b.tags = f.body.drop fixedLen ∧ Agrees b r)
      (parseBssKind f fixedLen capsOff a1 a2 a3)
      (if Spec.firstFits (f.body.drop fixedLen) then
        Spec.bssReport (privacyBit f.body capsOff) (visibleElems (f.body.drop fixedLen)) else none) := by
  unfold parseBssKind
  rw [ite_absorb fun h => Nat.lt_of_le_of_lt h (Nat.lt_add_of_pos_right Nat.zero_lt_two)]
  by_cases h2 : f.len < f.headerLen + fixedLen + 2
  · rw [if_pos h2, if_neg fun hfit => Nat.not_lt.mpr (firstFits_drop hb hfit) h2]
    exact Sim.err
  · have hbl : fixedLen + 2 ≤ f.body.length := tagRegion_le hb (Nat.add_assoc .. ▸ Nat.not_lt.1 h2)
    rw [if_neg h2, rd_of_le hbl (Nat.lt_of_succ_lt hc), Outcome.bind_ok, rd_of_le hbl hc, Outcome.bind_ok]
    dsimp only
    rw [rdSlice_rest (tagRegion_rest hb (Nat.le_of_add_right_le hbl)), Outcome.bind_ok, bssReport_eq]
    refine (walkTags_bss_sim _ (agrees_init a1 a2 a3 (f.body.drop fixedLen) f.body capsOff)).mono fun _ _ h => ?_
    obtain ⟨b, hp, hag, e1, e2, e3, e4⟩ := h
    exact ⟨b, hp, e1, e2, e3, e4, hag⟩

def MKind.isBss (k : MKind) : Prop := k = .beacon ∨ k = .probeResp ∨ k = .assocResp ∨ k = .reassocResp
def MKind.isSta (k : MKind) : Prop := k = .probeReq ∨ k = .assocReq ∨ k = .reassocReq
def MKind.isReason (k : MKind) : Prop := k = .deauth ∨ k = .disassoc

theorem MKind.trichotomy (m : MKind) : MKind.isBss m ∨ MKind.isSta m ∨ MKind.isReason m := by
  cases m <;> simp [MKind.isBss, MKind.isSta, MKind.isReason]

theorem MKind.classes_disjoint (m : MKind) :
    ¬ (MKind.isBss m ∧ MKind.isSta m) ∧ ¬ (MKind.isBss m ∧ MKind.isReason m) ∧ ¬ (MKind.isSta m ∧ MKind.isReason m) := by
  cases m <;> simp [MKind.isBss, MKind.isSta, MKind.isReason]

theorem parseMgmt_bss (k : MKind) (hk : MKind.isBss k) (f : Frame) (ht : typeOk f k = true) :
    parseMgmt k f = parseBssKind f k.fixedLen k.capsOff (addrs f).1 (addrs f).2.1 (addrs f).2.2 := by
  unfold parseMgmt
  rw [if_neg (not_not_intro ht)]
  rcases hk with rfl | rfl | rfl | rfl <;> rfl

theorem parseMgmt_sta (k : MKind) (hk : MKind.isSta k) (f : Frame) (ht : typeOk f k = true) :
    parseMgmt k f = parseStaKind f k.fixedLen (k != .probeReq) (addrs f).2.1 (addrs f).2.2 := by
  unfold parseMgmt
  rw [if_neg (not_not_intro ht)]
  rcases hk with rfl | rfl | rfl <;> rfl

theorem parseMgmt_reason (k : MKind) (hk : MKind.isReason k) (f : Frame) (ht : typeOk f k = true) :
    parseMgmt k f = parseReasonKind f k.fixedLen := by
  unfold parseMgmt
  rw [if_neg (not_not_intro ht)]
  rcases hk with rfl | rfl <;> rfl

/-- **C04 (positive clause, BSS kinds)** beacon, probe response, (re)association response: the
parser refuses exactly when the frame is too short for the fixed parameters plus one element
header, the first element does not fit, or the Spec's report of the visible elements refuses (an
RSN / WPA element too short for its counts); otherwise it reports the three addresses, the tag
octets and a record that agrees with the Spec's report -/
theorem C04_parse_bss (k : MKind) (hk : MKind.isBss k) (f : Frame) (hs : C01.Shape f) (ht : typeOk f k = true) :
    let tags := f.body.drop k.fixedLen
    (f.len < f.headerLen + k.fixedLen + 2 ∨ ¬ Spec.firstFits tags → parseMgmt k f = .err (-EINVAL)) ∧
    (f.headerLen + k.fixedLen + 2 ≤ f.len → Spec.firstFits tags →
      match Spec.bssReport (privacyBit f.body k.capsOff) (visibleElems tags) with
      | none => parseMgmt k f = .err (-EINVAL)
      | some r => ∃ b, parseMgmt k f = .ok (.bss b) ∧
          b.receiver = (addrs f).1 ∧ b.transmitter = (addrs f).2.1 ∧ b.bssid = (addrs f).2.2 ∧
          b.tags = tags ∧ Agrees b r) := by
  rw [parseMgmt_bss k hk f ht]
  have h := bssKind_sim f hs.body k.fixedLen k.capsOff (C01.capsOff_lt k) (addrs f).1 (addrs f).2.1 (addrs f).2.2
  refine ⟨fun hc => h.none_iff.mp (if_neg fun hfit => hc.elim (Nat.not_lt.mpr (firstFits_drop hs.body hfit)) (· hfit)),
    fun _ hfit => ?_⟩
  rw [if_pos hfit] at h
  exact h.elim id fun _ _ hp hb => hb.elim fun b hb => ⟨b, hb.1 ▸ hp, hb.2⟩

def staStep (r : Spec.StaReport) (e : Spec.Elem) : Spec.StaReport :=
  if e.num.toNat = 0 then { r with ssid := Spec.overlay r.ssid e.body }
  else if e.num.toNat = 3 then (if e.body.isEmpty then r else { r with channel := (e.body.getD 0 0).toNat })
  else r

theorem staReport_eq (es : List Spec.Elem) :
    Spec.staReport es = es.foldl staStep { ssid := List.replicate 33 0, channel := 0 } := by
  unfold Spec.staReport
  congr 1
  funext r e
  split
  · rename_i h; rw [staStep, h]; rfl
  · rename_i h; rw [staStep, h]; rfl
  · rename_i h0 h3; rw [staStep, if_neg h0, if_neg h3]

structure StaAgrees (s : Sta) (r : Spec.StaReport) : Prop where
  ssid : s.ssid = r.ssid
  channel : s.channel = r.channel

def SameStaEnvelope (s s' : Sta) : Prop :=
  s'.transmitter = s.transmitter ∧ s'.bssid = s.bssid ∧ s'.randomized = s.randomized ∧ s'.tags = s.tags

theorem staElem_sim (tags : Bytes) {s0 s : Sta} {r : Spec.StaReport} (e : Spec.ElemAt)
    (he : e.off + 2 + e.len ≤ tags.length) (ha : StaAgrees s r) (env : SameStaEnvelope s0 s) :
    Sim (fun s' r' => StaAgrees s' r' ∧ SameStaEnvelope s0 s') (staElem tags s e) (some (staStep r (elemOf tags e))) := by
  have hlen : e.len = ((tags.drop (e.off + 2)).take e.len).length := (elemOf_length he).symm
  unfold staElem staStep elemOf
  rw [rdSlice_ok he, Outcome.bind_ok]
  generalize (tags.drop (e.off + 2)).take e.len = body at hlen
  simp only [tag_consts.1, tag_consts.2.1, hlen, handleSsid_eq, ite_length_pos, apply_ite some]
  exact Sim.ite (fun _ => Sim.ok ⟨{ ha with ssid := by rw [ha.ssid] }, env⟩) fun _ =>
    Sim.ite (fun _ => Sim.ite (fun _ => Sim.ok ⟨ha, env⟩) fun _ => Sim.ok ⟨{ ha with channel := rfl }, env⟩) fun _ =>
      Sim.ok ⟨ha, env⟩

theorem walkTags_sta_sim (tags : Bytes) {s : Sta} {r : Spec.StaReport} (ha : StaAgrees s r) :
    Sim (fun p r' => ∃ s', p = .sta s' ∧ StaAgrees s' r' ∧ SameStaEnvelope s s') (walkTags tags (staElem tags) s Parsed.sta)
      (if Spec.firstFits tags then some ((visibleElems tags).foldl staStep r) else none) := by
  have := walkTags_sim (g := fun r x => some (staStep r x)) (c := elemOf tags) Parsed.sta
    (fun e he _ _ h => staElem_sim tags e he h.1 h.2) s r ⟨ha, rfl, rfl, rfl, rfl⟩
  rwa [foldOpt_some] at this

theorem staKind_sim (f : Frame) (hb : f.len = f.headerLen + f.body.length) (fixedLen : Nat) (strict : Bool)
    (hfix : strict = true ∨ fixedLen = 0) (a2 a3 : Bytes) :
    Sim (fun p r => ∃ s, p = .sta s ∧ s.transmitter = a2 ∧ s.bssid = a3 ∧
          s.randomized = (if (a2.getD 0 0).toNat / 2 % 2 = 1 then 1 else 0) ∧ s.tags = f.body.drop fixedLen ∧ StaAgrees s r)
      (parseStaKind f fixedLen strict a2 a3)
      (if Spec.firstFits (f.body.drop fixedLen) then some (Spec.staReport (visibleElems (f.body.drop fixedLen))) else none) := by
  unfold parseStaKind
  by_cases h1 : strict = true ∧ f.len ≤ f.headerLen + fixedLen
  · have hnf : ¬ Spec.firstFits (f.body.drop fixedLen) := fun hfit =>
      Nat.not_lt.2 h1.2 (Nat.lt_of_lt_of_le (Nat.lt_add_of_pos_right Nat.zero_lt_two) (firstFits_drop hb hfit))
    rw [if_pos h1, if_neg hnf]
    exact Sim.err
  · rw [if_neg h1]
    have hle : fixedLen ≤ f.body.length := by
      rcases hfix with h | h
      · exact tagRegion_le hb (Nat.le_of_lt (Nat.not_le.1 fun h' => h1 ⟨h, h'⟩))
      · exact h ▸ Nat.zero_le _
    dsimp only
    rw [rdSlice_rest (tagRegion_rest hb hle), Outcome.bind_ok, staReport_eq]
    refine (walkTags_sta_sim _ ⟨rfl, rfl⟩).mono fun _ _ h => ?_
    obtain ⟨s, hs, hag, e1, e2, e3, e4⟩ := h
    exact ⟨s, hs, e1, e2, e3, e4, hag⟩

/-- **C04 (positive clause, station kinds)** probe request, (re)association request: refused exactly
when the first element does not fit; otherwise transmitter, BSSID, the randomised-address bit
(bit 1 of the transmitter's first octet), the tag octets, and SSID / DS channel as
`Spec.staReport` of the visible elements -/
theorem C04_parse_sta (k : MKind) (hk : MKind.isSta k) (f : Frame) (hs : C01.Shape f) (ht : typeOk f k = true) :
    let tags := f.body.drop k.fixedLen
    (¬ Spec.firstFits tags → parseMgmt k f = .err (-EINVAL)) ∧
    (Spec.firstFits tags →
      ∃ s, parseMgmt k f = .ok (.sta s) ∧
        s.transmitter = (addrs f).2.1 ∧ s.bssid = (addrs f).2.2 ∧
        s.randomized = (if (((addrs f).2.1).getD 0 0).toNat / 2 % 2 = 1 then 1 else 0) ∧
        s.tags = tags ∧ StaAgrees s (Spec.staReport (visibleElems tags))) := by
  rw [parseMgmt_sta k hk f ht]
  have h := staKind_sim f hs.body k.fixedLen (k != .probeReq) (by rcases hk with rfl | rfl | rfl <;> decide)
    (addrs f).2.1 (addrs f).2.2
  refine ⟨fun hn => h.none_iff.mp (if_neg hn), fun hfit => ?_⟩
  rw [if_pos hfit] at h
  obtain ⟨_, hp, s, rfl, rest⟩ := h.of_some
  exact ⟨s, hp, rest⟩

/-- **C04 (positive clause, reason kinds)** deauthentication, disassociation: refused exactly when
the two octets of the reason code are missing; otherwise the header, the Order flag, the
little-endian reason code and the remaining octets as tags -/
theorem C04_parse_reason (k : MKind) (hk : MKind.isReason k) (f : Frame) (hs : C01.Shape f) (ht : typeOk f k = true) :
    (f.len < f.headerLen + 2 → parseMgmt k f = .err (-EINVAL)) ∧
    (f.headerLen + 2 ≤ f.len → ∀ b0 b1, f.fc = [b0, b1] →
      parseMgmt k f = .ok (.reason { ordered := fcOrdered b1, header := f.header,
                                      reason := le16 (f.body.getD 0 0) (f.body.getD 1 0), tags := f.body.drop 2 })) := by
  have hb := hs.body
  have h2 : k.fixedLen = 2 := by rcases hk with rfl | rfl <;> rfl
  rw [parseMgmt_reason k hk f ht, h2]
  unfold parseReasonKind
  refine ⟨fun h => if_pos h, fun h b0 b1 hfc => ?_⟩
  have hbl : 2 ≤ f.body.length := tagRegion_le hb h
  rw [if_neg (Nat.not_lt.mpr h), rd_of_le hbl (by decide), Outcome.bind_ok, rd_of_le hbl (by decide), Outcome.bind_ok]
  dsimp only
  rw [rdSlice_rest (by rw [Nat.sub_sub]; exact tagRegion_rest hb hbl), Outcome.bind_ok, hfc]

/-! The security summary (C08) is read off the Spec's fold: an RSN or Microsoft WPA element clears
the WEP flag for good, a Microsoft type-4 element sets WPS, every other element leaves both alone. -/

def isRsnElem (e : Spec.Elem) : Prop := e.num.toNat = 48
/-- a vendor element with the Microsoft OUI and the given type octet -/
def isMsElem (ty : Nat) (e : Spec.Elem) : Prop :=
  e.num.toNat = 221 ∧ e.body.length ≥ 4 ∧ e.body.take 3 = Spec.msOui ∧ (e.body.getD 3 0).toNat = ty
/-- an element that carries security suites: RSN, or Microsoft WPA (type 1) -/
def isSecElem (e : Spec.Elem) : Prop := isRsnElem e ∨ isMsElem 1 e

theorem specStep_of_rsn (r : Spec.BssReport) (e : Spec.Elem) (h : isRsnElem e) :
    specStep r e = (Spec.rsnDecode e.body).map fun d =>
      { r with enc := (if r.enc = 2 then 0 else r.enc) ||| Spec.rsnFlags d, rsn := some d } := by
  unfold isRsnElem at h
  unfold specStep
  rw [h]
  rfl

theorem specStep_of_ms (r : Spec.BssReport) (e : Spec.Elem) (ty : Nat) (h : isMsElem ty e) :
    specStep r e =
      if ty = 1 then
        (Spec.wpaDecode (e.body.drop 4)).map fun d =>
          { r with enc := ((if r.enc = 2 then 0 else r.enc) ||| 4) ||| Spec.wpaFlags d, wpa := some d }
      else if ty = 4 then some { r with wps := 1 }
      else some r := by
  obtain ⟨h221, hlen, houi, hty⟩ := h
  rw [specStep, h221, hty]
  exact if_pos (c := e.body.length ≥ 4 ∧ e.body.take 3 = Spec.msOui) ⟨hlen, houi⟩

theorem specStep_of_wpa (r : Spec.BssReport) (e : Spec.Elem) (h : isMsElem 1 e) :
    specStep r e = (Spec.wpaDecode (e.body.drop 4)).map fun d =>
      { r with enc := ((if r.enc = 2 then 0 else r.enc) ||| 4) ||| Spec.wpaFlags d, wpa := some d } :=
  specStep_of_ms r e 1 h

theorem specStep_of_wps (r : Spec.BssReport) (e : Spec.Elem) (h : isMsElem 4 e) : specStep r e = some { r with wps := 1 } :=
  specStep_of_ms r e 4 h

/-- every other element: the step cannot fail, and only SSID / hidden (element 0) or the channel
(elements 3, 61, if not empty) change -/
theorem specStep_of_plain (r : Spec.BssReport) (e : Spec.Elem) (hs : ¬ isSecElem e) (h4 : ¬ isMsElem 4 e) :
    specStep r e = some
      { r with
        ssid := if e.num.toNat = 0 then Spec.overlay r.ssid e.body else r.ssid
        hidden := if e.num.toNat = 0 then (if e.body.isEmpty ∨ (e.body.take 32).all (· == 0) then 1 else 0) else r.hidden
        channel := if e.num.toNat = 3 ∨ e.num.toNat = 61 then (if e.body.isEmpty then r.channel else (e.body.getD 0 0).toNat)
          else r.channel } := by
  have h48 : ¬ e.num.toNat = 48 := fun h => hs (Or.inl h)
  unfold specStep
  by_cases h0 : e.num.toNat = 0
  · rw [h0]; rfl
  rw [if_neg h0, if_neg h0, if_neg h0]
  by_cases h3 : e.num.toNat = 3 ∨ e.num.toNat = 61
  · rw [if_pos h3, if_pos h3]
    split <;> rfl
  rw [if_neg h3, if_neg h3, if_neg h48]
  by_cases h221 : e.num.toNat = 221
  · rw [if_pos h221]
    by_cases hv : e.body.length ≥ 4 ∧ e.body.take 3 = Spec.msOui
    · rw [if_pos hv, if_neg fun h => hs (Or.inr ⟨h221, hv.1, hv.2, h⟩), if_neg fun h => h4 ⟨h221, hv.1, hv.2, h⟩]
    · rw [if_neg hv]
  · rw [if_neg h221]

theorem specStep_enc {r r' : Spec.BssReport} {e : Spec.Elem} (h : specStep r e = some r') :
    (EncInv r.enc → isSecElem e → r'.enc &&& 2 = 0) ∧ (¬ isSecElem e → r'.enc = r.enc) := by
  constructor
  · rintro hinv (hs | hs)
    · rw [specStep_of_rsn r e hs] at h
      obtain ⟨d, _, rfl⟩ := Option.map_eq_some_iff.mp h
      exact clear_noWep hinv (rsnFlags_noWep d)
    · rw [specStep_of_wpa r e hs] at h
      obtain ⟨d, _, rfl⟩ := Option.map_eq_some_iff.mp h
      exact (or_and_two _ _).mpr ⟨clear_noWep hinv (by decide), wpaFlags_noWep d⟩
  · intro hs
    by_cases h4 : isMsElem 4 e
    · rw [specStep_of_wps r e h4] at h
      cases h; rfl
    · rw [specStep_of_plain r e hs h4] at h
      cases h; rfl

theorem specStep_total (r : Spec.BssReport) (e : Spec.Elem) (h : ¬ isSecElem e) : ∃ r', specStep r e = some r' := by
  by_cases h4 : isMsElem 4 e
  · exact ⟨_, specStep_of_wps r e h4⟩
  · exact ⟨_, specStep_of_plain r e h h4⟩

theorem specStep_wps {r r' : Spec.BssReport} {e : Spec.Elem} (h : specStep r e = some r') :
    (isMsElem 4 e → r'.wps = 1) ∧ (¬ isMsElem 4 e → r'.wps = r.wps) := by
  constructor
  · intro h4
    rw [specStep_of_wps r e h4] at h
    cases h; rfl
  · intro h4
    by_cases hs : isSecElem e
    · rcases hs with hs | hs
      · rw [specStep_of_rsn r e hs] at h
        obtain ⟨d, _, rfl⟩ := Option.map_eq_some_iff.mp h
        rfl
      · rw [specStep_of_wpa r e hs] at h
        obtain ⟨d, _, rfl⟩ := Option.map_eq_some_iff.mp h
        rfl
    · rw [specStep_of_plain r e hs h4] at h
      cases h; rfl

/-- inversion of `C04_parse_bss` -/
theorem C04_parse_bss_ok (k : MKind) (hk : MKind.isBss k) (f : Frame) (hs : C01.Shape f) (ht : typeOk f k = true)
    (b : Bss) (hp : parseMgmt k f = .ok (.bss b)) :
    f.headerLen + k.fixedLen + 2 ≤ f.len ∧ Spec.firstFits (f.body.drop k.fixedLen) ∧
    ∃ r, Spec.bssReport (privacyBit f.body k.capsOff) (visibleElems (f.body.drop k.fixedLen)) = some r ∧ Agrees b r := by
  rw [parseMgmt_bss k hk f ht] at hp
  obtain ⟨r, hr, _, hb, _, _, _, _, hag⟩ :=
    (bssKind_sim f hs.body k.fixedLen k.capsOff (C01.capsOff_lt k) (addrs f).1 (addrs f).2.1 (addrs f).2.2).exists_of_ok hp
  cases hb
  split at hr
  · rename_i hfit
    exact ⟨firstFits_drop hs.body hfit, hfit, r, hr, hag⟩
  · cases hr

/-- the clauses of `C08_summary` hold of the Spec's report of any element list -/
theorem bssReport_summary {privacy : Bool} {es : List Spec.Elem} {r : Spec.BssReport}
    (hr : Spec.bssReport privacy es = some r) :
    ((∀ e ∈ es, ¬ isSecElem e) → r.enc = if privacy then 2 else 0) ∧
    ((∃ e ∈ es, isSecElem e) → r.enc &&& 2 = 0) ∧
    (r.enc = 2 ↔ privacy = true ∧ ∀ e ∈ es, ¬ isSecElem e) ∧
    ((∃ e ∈ es, isMsElem 4 e) → r.wps = 1) ∧
    ((∀ e ∈ es, ¬ isMsElem 4 e) → r.wps = 0) := by
  rw [bssReport_eq] at hr
  obtain ⟨_, hsec, hplain⟩ := foldOpt_latch (I := EncInv) (C := isSecElem) (v := (·.enc)) (p := (· &&& 2 = 0))
    (fun _ => Or.inr) specStep_enc (specInit_inv privacy) hr
  obtain ⟨_, hwps, hnowps⟩ := foldOpt_latch (I := fun _ => True) (C := isMsElem 4) (v := (·.wps)) (p := (· = 1))
    (fun _ _ => trivial) (fun h => ⟨fun _ => (specStep_wps h).1, (specStep_wps h).2⟩) trivial hr
  refine ⟨hplain, hsec, ⟨fun h2 => ?_, fun h => ?_⟩, hwps, hnowps⟩
  · have hno : ∀ e ∈ es, ¬ isSecElem e := fun e he hse => absurd (h2 ▸ hsec ⟨e, he, hse⟩ : 2 &&& 2 = 0) (by decide)
    refine ⟨?_, hno⟩
    cases privacy
    · exact absurd (h2 ▸ hplain hno : 2 = 0) (by decide)
    · rfl
  · rw [hplain h.2, h.1]; rfl

/-- **C08 (summary)** what the security summary of a successfully parsed BSS frame says, in terms of
the frame's visible elements: the WEP flag is reported exactly when the Privacy bit is set and no
RSN and no Microsoft WPA element is visible (and then it is the whole summary); any such element
removes it for good; WPS is reported exactly when a Microsoft type-4 vendor element is visible -/
theorem C08_summary (k : MKind) (hk : MKind.isBss k) (f : Frame) (hs : C01.Shape f) (ht : typeOk f k = true)
    (b : Bss) (hp : parseMgmt k f = .ok (.bss b)) :
    let vis := visibleElems (f.body.drop k.fixedLen)
    let privacy := privacyBit f.body k.capsOff
    ((∀ e ∈ vis, ¬ isSecElem e) → b.enc = if privacy then 2 else 0) ∧
    ((∃ e ∈ vis, isSecElem e) → b.enc &&& 2 = 0) ∧
    (b.enc = 2 ↔ privacy = true ∧ ∀ e ∈ vis, ¬ isSecElem e) ∧
    ((∃ e ∈ vis, isMsElem 4 e) → b.wps = 1) ∧
    ((∀ e ∈ vis, ¬ isMsElem 4 e) → b.wps = 0) := by
  obtain ⟨_, _, r, hr, hag⟩ := C04_parse_bss_ok k hk f hs ht b hp
  rw [hag.enc, hag.wps]
  exact bssReport_summary hr

/-- **C08 (summary, total form)** a BSS frame whose element region the iterator accepts and which
shows no RSN and no Microsoft WPA element always parses, and its summary is WEP or nothing
according to the Privacy bit -/
theorem C08_summary_plain (k : MKind) (hk : MKind.isBss k) (f : Frame) (hs : C01.Shape f) (ht : typeOk f k = true)
    (hlen : f.headerLen + k.fixedLen + 2 ≤ f.len) (hfit : Spec.firstFits (f.body.drop k.fixedLen))
    (hno : ∀ e ∈ visibleElems (f.body.drop k.fixedLen), ¬ isSecElem e) :
    ∃ b, parseMgmt k f = .ok (.bss b) ∧ b.enc = if privacyBit f.body k.capsOff then 2 else 0 := by
  have h2 := (C04_parse_bss k hk f hs ht).2 hlen hfit
  obtain ⟨r, hr⟩ := foldOpt_total (fun e he r => specStep_total r e (hno e he)) (specInit (privacyBit f.body k.capsOff))
  rw [bssReport_eq, hr] at h2
  obtain ⟨b, hb, _⟩ := h2
  exact ⟨b, hb, (C08_summary k hk f hs ht b hb).1 hno⟩

theorem parseAtF_map (tags : Bytes) (fuel base : Nat) (bs : Bytes) (h : tags.drop base = bs) :
    (Spec.parseAtF fuel base bs).map (elemOf tags) = Spec.parseF fuel bs := by
  fun_induction Spec.parseAtF fuel base bs with
  | case1 => rfl
  | case2 fuel base n l rest hl ih =>
    have hrest : tags.drop (base + 2) = rest := by rw [← List.drop_drop, h]; rfl
    rw [List.map_cons, Spec.parseF, if_pos hl, ih (by rw [← hrest, List.drop_drop, Nat.add_assoc])]
    simp only [elemOf, hrest]
  | case3 fuel base n l rest hl => rw [Spec.parseF, if_neg hl]; rfl
  | case4 fuel base bs hne =>
    unfold Spec.parseF
    split
    · rfl
    · exact absurd rfl (hne _ _ _)
    · rfl

/-- the greedy parses agree: same elements, the offset view only adds where each one starts -/
theorem parseAt_map (tags : Bytes) : (Spec.parseAt tags).map (elemOf tags) = Spec.parse tags :=
  parseAtF_map tags tags.length 0 tags rfl

theorem firstFits_of_wf (tags : Bytes) (hlen : 2 ≤ tags.length) (hwf : Spec.wf tags = true) : Spec.firstFits tags := by
  refine (firstFits_iff tags).mpr fun h => ?_
  have he := (wf_iff tags).mp hwf
  rw [h] at he
  exact absurd (he ▸ hlen) (by decide)

/-- in a region without inner empty elements the iterator shows everything -/
theorem visible_all (tags : Bytes) (h : Spec.noInnerEmpty (Spec.parse tags) = true) :
    visibleElems tags = Spec.parse tags := by
  unfold visibleElems
  rw [parseAt_eq_offsets, visible_offsets _ _ h, ← parseAt_eq_offsets, parseAt_map]

/-- **C04 (`C04_parse_statement`)** a beacon with a well-formed element region reports the Spec's
values: `C04_parse_bss` where the iterator shows every element (`visible_all`) -/
theorem C04_parse_statement_holds : C04.C04_parse_statement := by
  intro f tags hcoh ht _ htags hwf r hr
  subst htags
  unfold Spec.wellFormedTags at hwf
  simp only [Bool.and_eq_true, decide_eq_true_eq] at hwf
  obtain ⟨⟨h2, hwf'⟩, hne⟩ := hwf
  have key := bssKind_sim f hcoh 12 10 (by decide) (addrs f).1 (addrs f).2.1 (addrs f).2.2
  rw [if_pos (firstFits_of_wf _ h2 hwf'), visible_all _ hne] at key
  have hpv : privacyBit f.body 10 = decide ((f.body.getD 10 0).toNat / 16 % 2 = 1) := rfl
  rw [hpv, hr] at key
  obtain ⟨_, hp, b, rfl, _, _, _, htg, hag⟩ := key.of_some
  exact ⟨b, by rw [parseMgmt_bss .beacon (Or.inl rfl) f ht]; exact hp, hag.ssid, hag.hidden, hag.channel, hag.wps, hag.enc, htg⟩

/-- a beacon: Privacy set, SSID "abc", channel 6, RSN (group CCMP-128, pairwise CCMP-128, AKM PSK), WPS vendor element -/
def exBeacon : Frame :=
  { flags := 0, fc := [0x80, 0], len := 24 + 12 + 38, headerLen := 24,
    header := [0x80, 0, 0, 0, 0xff, 0xff, 0xff, 0xff, 0xff, 0xff, 2, 0, 0, 0, 0, 1, 2, 0, 0, 0, 0, 1, 0, 0],
    body := [0, 0, 0, 0, 0, 0, 0, 0, 100, 0, 0x11, 0x04] ++
      [0, 3, 0x61, 0x62, 0x63] ++ [3, 1, 6] ++
      [48, 20, 1, 0, 0x00, 0x0f, 0xac, 4, 1, 0, 0x00, 0x0f, 0xac, 4, 1, 0, 0x00, 0x0f, 0xac, 2, 0, 0] ++
      [221, 6, 0x00, 0x50, 0xf2, 4, 0x10, 0x4a],
    radiotap := none }

theorem exBeacon_shape : C01.Shape exBeacon :=
  ⟨⟨0x80, 0, rfl⟩, by decide +kernel, by decide +kernel, by decide +kernel, fun _ _ _ _ => by decide +kernel⟩

example : typeOk exBeacon .beacon = true := by decide
example : Spec.firstFits (exBeacon.body.drop MKind.beacon.fixedLen) := by decide +kernel
example : privacyBit exBeacon.body MKind.beacon.capsOff = true := by decide +kernel
example : (Spec.bssReport true (visibleElems (exBeacon.body.drop MKind.beacon.fixedLen))).map (fun r => (r.ssid.take 4, r.hidden, r.channel, r.wps, r.enc)) =
    some ([0x61, 0x62, 0x63, 0], 0, 6, 1, 2 ^ 3 ||| 2 ^ 8 ||| 2 ^ 22 ||| 2 ^ 34) := by decide +kernel
example : (parseMgmt .beacon exBeacon).isOk = true := by decide +kernel

/-- the theorems applied to the concrete beacon: the parser's record carries the Spec's values -/
example : ∃ b, parseMgmt .beacon exBeacon = .ok (.bss b) ∧
    b.enc = 2 ^ 3 ||| 2 ^ 8 ||| 2 ^ 22 ||| 2 ^ 34 ∧ b.wps = 1 ∧ b.channel = 6 ∧ b.hidden = 0 := by
  have h := (C04_parse_bss .beacon (Or.inl rfl) exBeacon exBeacon_shape (by decide)).2 (by decide) (by decide +kernel)
  have hv : (Spec.bssReport (privacyBit exBeacon.body MKind.beacon.capsOff)
      (visibleElems (exBeacon.body.drop MKind.beacon.fixedLen))).map (fun r => (r.enc, r.wps, r.channel, r.hidden)) =
      some (2 ^ 3 ||| 2 ^ 8 ||| 2 ^ 22 ||| 2 ^ 34, 1, 6, 0) := by decide +kernel
  cases hr : Spec.bssReport (privacyBit exBeacon.body MKind.beacon.capsOff)
      (visibleElems (exBeacon.body.drop MKind.beacon.fixedLen)) with
  | none => rw [hr] at hv; cases hv
  | some r =>
    rw [hr] at h hv
    obtain ⟨b, hb, _, _, _, _, hag⟩ := h
    simp only [Option.map_some, Option.some.injEq, Prod.mk.injEq] at hv
    exact ⟨b, hb, hag.enc.trans hv.1, hag.wps.trans hv.2.1, hag.channel.trans hv.2.2.1, hag.hidden.trans hv.2.2.2⟩

end LWV.Props.C04Full
