import LWV.Props.C14Parse
/-
C15 for the nine management parsers `libwifi_parse_<kind>` (beacon, probe response, (re)association
response, probe request, (re)association request, deauthentication, disassociation), each followed by
the release of its output object (`libwifi_free_bss`, `libwifi_free_sta`; the parsed deauthentication and
disassociation have no release routine, the harness calls `free(d->tags.parameters)`), and for the harness
pattern "call the routine a second time on the same output object after releasing it" (`*_twice_*`), there
also for `libwifi_parse_data` / `libwifi_free_data` and `libwifi_get_wpa_data` / `libwifi_free_wpa_data`.

Everything is stated for an ARBITRARY fault schedule `σ : Nat → Bool`, every parser kind `k`, every
frame `f` and every starting ledger `h`.  The allocation request issued in ledger state `h` is refused
exactly when `σ h.reqs` (`h.reqs` is the ledger's request counter, see `LWV.Heap.request`).

The statements have the three forms described at the head of Props/C14Parse.lean (`*_clean`, `*_result`,
`*_nf`); for one call of a management parser the first is `C14.C14_parse_release`.  For the repeated call
they say that at most one block is live at a time and each is released exactly once, whichever of the two
requests the schedule refuses, and that a refused request in the first call does not disturb the second.
-/
namespace LWV.Props.C15Parse
open LWV LWV.Model LWV.Heap LWV.Props.C14Full

/-- `-ENOMEM` only on a frame on which the parser reaches its allocation, the copy of the tagged parameters
(`parseAllocSize`) -/
theorem mgmt_release_result (σ : Nat → Bool) (k : MKind) (f : Frame) (h : H) :
    ((parseReleaseH σ k f).run h).1 = parseMgmt k f ∨
    (((parseReleaseH σ k f).run h).1 = .err (-ENOMEM) ∧ ∃ n, parseAllocSize k f = some n) := by
  rw [parseReleaseH_eq]
  exact scratch_result

theorem mgmt_release_nf (k : MKind) (f : Frame) (h : H) : ((parseReleaseH nf k f).run h).1 = parseMgmt k f := by
  rw [parseReleaseH_eq]
  exact scratch_nf

theorem mgmt_release_never_fail (k : MKind) (f : Frame) (h : H) :
    ((parseReleaseH (fun _ => false) k f).run h).1 = parseMgmt k f := mgmt_release_nf k f h

/-- the three cases together: which of the two outcomes of `mgmt_release_result` occurs is
determined by whether `libwifi_parse_<kind>` reaches its allocation and by the schedule at the ledger's
request counter `h.reqs` -/
theorem mgmt_release_enomem_iff (σ : Nat → Bool) (k : MKind) (f : Frame) (h : H) :
    (∀ n, parseAllocSize k f = some n → σ h.reqs = true →
      ((parseReleaseH σ k f).run h).1 = .err (-ENOMEM)) ∧
    (∀ n, parseAllocSize k f = some n → σ h.reqs = false →
      ((parseReleaseH σ k f).run h).1 = parseMgmt k f) ∧
    (parseAllocSize k f = none → ((parseReleaseH σ k f).run h).1 = parseMgmt k f) := by
  rw [parseReleaseH_eq, scratch_spec.1]
  refine ⟨fun n ha hf => ?_, fun n ha hf => ?_, fun ha => ?_⟩
  · simp only [ha, hf, Option.isSome_some, and_self, if_true]
  · simp only [hf, Bool.false_eq_true, and_false, if_false]
  · simp only [ha, Option.isSome_none, Bool.false_eq_true, false_and, if_false]

theorem mgmt_release_reqs (σ : Nat → Bool) (k : MKind) (f : Frame) (h : H) :
    ((parseReleaseH σ k f).run h).2.reqs = h.reqs + (if (parseAllocSize k f).isSome then 1 else 0) := by
  rw [parseReleaseH_eq]
  exact scratch_spec.2.2.2.2

/-- `libwifi_parse_<kind>(&out, frame)`, release of `out`, then the same call on the same `out` and its
release again; `parseDataTwiceH` and `wpaDataTwiceH` are the pattern for the two extraction routines -/
def parseTwiceH (σ : Nat → Bool) (k : MKind) (f : Frame) : M (Outcome Parsed × Outcome Parsed) := do
  let a ← parseReleaseH σ k f
  let b ← parseReleaseH σ k f
  pure (a, b)

def parseDataTwiceH (σ : Nat → Bool) (f : Frame) : M (Outcome DataInfo × Outcome DataInfo) := do
  let a ← parseDataReleaseH σ f
  let b ← parseDataReleaseH σ f
  pure (a, b)

def wpaDataTwiceH (σ : Nat → Bool) (f : Frame) : M (Outcome WpaData × Outcome WpaData) := do
  let a ← wpaDataReleaseH σ f
  let b ← wpaDataReleaseH σ f
  pure (a, b)

theorem mgmt_twice_clean (σ : Nat → Bool) (k : MKind) (f : Frame) (h : H) (own : List Nat) (c : Clean h own) :
    Clean ((parseTwiceH σ k f).run h).2 own := by
  rw [parseTwiceH, run_bind, run_bind, run_pure]
  exact C14.C14_parse_release σ k f _ own (C14.C14_parse_release σ k f h own c)

/-- from the empty ledger: after the two calls of `libwifi_parse_<kind>` and the two
releases no library block is allocated and nothing was released twice or invalidly -/
theorem C15_mgmt_twice (σ : Nat → Bool) (k : MKind) (f : Frame) :
    let r := (parseTwiceH σ k f).run {}
    r.2.live = [] ∧ r.2.bad = 0 :=
  clean_nil_live (mgmt_twice_clean σ k f {} [] clean_init)

theorem mgmt_twice_result (σ : Nat → Bool) (k : MKind) (f : Frame) (h : H) :
    (((parseTwiceH σ k f).run h).1.1 = parseMgmt k f ∨
      (((parseTwiceH σ k f).run h).1.1 = .err (-ENOMEM) ∧ ∃ n, parseAllocSize k f = some n)) ∧
    (((parseTwiceH σ k f).run h).1.2 = parseMgmt k f ∨
      (((parseTwiceH σ k f).run h).1.2 = .err (-ENOMEM) ∧ ∃ n, parseAllocSize k f = some n)) := by
  rw [parseTwiceH, run_bind, run_bind, run_pure]
  exact ⟨mgmt_release_result σ k f h, mgmt_release_result σ k f _⟩

theorem mgmt_twice_nf (k : MKind) (f : Frame) (h : H) :
    ((parseTwiceH nf k f).run h).1 = (parseMgmt k f, parseMgmt k f) := by
  rw [parseTwiceH, run_bind, run_bind, run_pure]
  exact Prod.ext (mgmt_release_nf k f h) (mgmt_release_nf k f _)

theorem mgmt_twice_never_fail (k : MKind) (f : Frame) (h : H) :
    ((parseTwiceH (fun _ => false) k f).run h).1.1 = parseMgmt k f ∧
    ((parseTwiceH (fun _ => false) k f).run h).1.2 = parseMgmt k f := by
  have := mgmt_twice_nf k f h
  exact ⟨congrArg Prod.fst this, congrArg Prod.snd this⟩

theorem data_twice_clean (σ : Nat → Bool) (f : Frame) (h : H) (own : List Nat) (c : Clean h own) :
    Clean ((parseDataTwiceH σ f).run h).2 own := by
  rw [parseDataTwiceH, run_bind, run_bind, run_pure]
  exact C14Parse.data_release_clean σ f _ own (C14Parse.data_release_clean σ f h own c)

/-- `libwifi_parse_data` + `libwifi_free_data` twice, from the empty ledger: nothing stays allocated, nothing is
released twice -/
theorem C15_data_twice (σ : Nat → Bool) (f : Frame) :
    let r := (parseDataTwiceH σ f).run {}
    r.2.live = [] ∧ r.2.bad = 0 :=
  clean_nil_live (data_twice_clean σ f {} [] clean_init)

theorem data_twice_result (σ : Nat → Bool) (f : Frame) (h : H) :
    (((parseDataTwiceH σ f).run h).1.1 = parseData f ∨
      (((parseDataTwiceH σ f).run h).1.1 = .err (-ENOMEM) ∧ ∃ d, parseData f = .ok d)) ∧
    (((parseDataTwiceH σ f).run h).1.2 = parseData f ∨
      (((parseDataTwiceH σ f).run h).1.2 = .err (-ENOMEM) ∧ ∃ d, parseData f = .ok d)) := by
  rw [parseDataTwiceH, run_bind, run_bind, run_pure]
  exact ⟨C14Parse.data_release_result σ f h, C14Parse.data_release_result σ f _⟩

theorem data_twice_nf (f : Frame) (h : H) :
    ((parseDataTwiceH nf f).run h).1 = (parseData f, parseData f) := by
  rw [parseDataTwiceH, run_bind, run_bind, run_pure]
  exact Prod.ext (C14Parse.data_release_nf f h) (C14Parse.data_release_nf f _)

theorem wpa_twice_clean (σ : Nat → Bool) (f : Frame) (h : H) (own : List Nat) (c : Clean h own) :
    Clean ((wpaDataTwiceH σ f).run h).2 own := by
  rw [wpaDataTwiceH, run_bind, run_bind, run_pure]
  exact C14Parse.wpa_release_clean σ f _ own (C14Parse.wpa_release_clean σ f h own c)

/-- `libwifi_get_wpa_data` + `libwifi_free_wpa_data` twice, from the empty ledger: nothing stays allocated, nothing
is released twice -/
theorem C15_wpa_twice (σ : Nat → Bool) (f : Frame) :
    let r := (wpaDataTwiceH σ f).run {}
    r.2.live = [] ∧ r.2.bad = 0 :=
  clean_nil_live (wpa_twice_clean σ f {} [] clean_init)

theorem wpa_twice_result (σ : Nat → Bool) (f : Frame) (h : H) :
    (((wpaDataTwiceH σ f).run h).1.1 = getWpaData f ∨
      (((wpaDataTwiceH σ f).run h).1.1 = .err (-ENOMEM) ∧ ∃ d, getWpaData f = .ok d ∧ 0 < d.keyDataLength)) ∧
    (((wpaDataTwiceH σ f).run h).1.2 = getWpaData f ∨
      (((wpaDataTwiceH σ f).run h).1.2 = .err (-ENOMEM) ∧ ∃ d, getWpaData f = .ok d ∧ 0 < d.keyDataLength)) := by
  rw [wpaDataTwiceH, run_bind, run_bind, run_pure]
  exact ⟨C14Parse.wpa_release_result σ f h, C14Parse.wpa_release_result σ f _⟩

theorem wpa_twice_nf (f : Frame) (h : H) :
    ((wpaDataTwiceH nf f).run h).1 = (getWpaData f, getWpaData f) := by
  rw [wpaDataTwiceH, run_bind, run_bind, run_pure]
  exact Prod.ext (C14Parse.wpa_release_nf f h) (C14Parse.wpa_release_nf f _)

/-- what `libwifi_get_wifi_frame` makes of the beacon `C14Full.bcn`: 24 header octets, 12 octets of fixed
parameters, an SSID element "AB" -/
def bcnF : Frame :=
  { flags := 0, fc := [0x80, 0], len := 40, headerLen := 24, header := [0x80, 0] ++ List.replicate 22 0,
    body := List.replicate 12 0 ++ [0, 2, 65, 66], radiotap := none }

example : classify false bcn = .ok bcnF := by decide +kernel

/-- the beacon parser reaches its allocation on `bcnF` (4 octets of tagged parameters), so the `∃ n` of
`mgmt_release_result` and the hypotheses of the first two clauses of `mgmt_release_enomem_iff` are inhabited; the probe-response
parser rejects the same frame before allocating -/
example : parseAllocSize .beacon bcnF = some 4 ∧ parseAllocSize .probeResp bcnF = none := by decide +kernel

/-- the copy of the tagged parameters cannot be allocated: `libwifi_parse_beacon` reports `-ENOMEM`, one
request, one fault, nothing live, nothing released -/
example :
    let r := (parseReleaseH C14Parse.failFirst .beacon bcnF).run {}
    r.1 = .err (-ENOMEM) ∧ r.2.reqs = 1 ∧ r.2.faults = 1 ∧ r.2.live = [] ∧ r.2.bad = 0 := by decide +kernel

/-- that vector with the schedule given in place: the first request is request 0 -/
example :
    let r := (parseReleaseH (fun n => n == 0) .beacon bcnF).run {}
    r.1 = .err (-ENOMEM) ∧ r.2.live = [] ∧ r.2.bad = 0 := by decide +kernel

/-- fault-free: the pure result, which is a success, one request, the block released -/
example :
    let r := (parseReleaseH nf .beacon bcnF).run {}
    r.1 = parseMgmt .beacon bcnF ∧ r.1.isOk = true ∧ r.2.reqs = 1 ∧ r.2.faults = 0 ∧ r.2.live = [] ∧ r.2.bad = 0 := by
  decide +kernel

/-- the second call on the same output object after a refused first request: first `-ENOMEM`, then the
full result; two requests, one fault, empty ledger -/
example :
    let r := (parseTwiceH C14Parse.failFirst .beacon bcnF).run {}
    r.1.1 = .err (-ENOMEM) ∧ r.1.2 = parseMgmt .beacon bcnF ∧ r.1.2.isOk = true ∧
    r.2.reqs = 2 ∧ r.2.faults = 1 ∧ r.2.live = [] ∧ r.2.bad = 0 := by decide +kernel

/-- the parser that rejects the frame does so without a request, whatever the schedule -/
example :
    let r := (parseReleaseH (fun _ => true) .probeResp bcnF).run {}
    r.1 = .err (-EINVAL) ∧ r.2.reqs = 0 := by decide +kernel

end LWV.Props.C15Parse
