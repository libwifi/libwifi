import LWV.Props.C10Full
import LWV.Props.C01
/-
C02 (full) — classification behind a radiotap header stated against the Spec alone, and what holds of
every entry point around it:

A. `C09_refuse_full`, `C09_accept_iff`: the radiotap parser refuses (with -EINVAL) EVERY header the
   Spec refuses, including a chain of present words that leaves the header; together with
   `C09Full.C09_decode_full` the parser accepts exactly the headers the Spec accepts.
B. `C02_radiotap_spec`: `classify true bs` is determined by `Spec.rtFields`, `Spec.rtValues` and
   `Spec.classifyCore` (no reference to the model's radiotap parser on the Spec side).
C. `*_err`, `C01_error_codes`: every error a parsing entry point reports is -EINVAL, hence negative.
   `ErrInval` is kept by the parsers' constructs (`ErrInval.bind`, `.ite`, `.rd`, `.rdSlice`):
   a `*_err` is read off an exact statement for all inputs, or retraces its routine.
D. `classify_prefix`, `C10_prefix_invariance`: behind the generated radiotap header (and before the FCS
   octets it may announce) a frame is classified as it is bare, with the radiotap record and two flags added.
-/
namespace LWV.Props.C02Full
open LWV LWV.Model
open LWV.Props.C09Full

/-- **C09 (refuse, complete)** every header the Spec refuses is refused by the parser with -EINVAL -/
theorem C09_refuse_full (bs : Bytes) (h : Spec.rtFields bs = none) : parseRadiotapInfo bs = .err (-EINVAL) :=
  (parseRadiotapInfo_sim bs).none_iff.1 h

/-- **C09 (accept)** `libwifi_parse_radiotap_info` returns 0 on exactly the headers the Spec accepts -/
theorem C09_accept_iff (bs : Bytes) : (∃ info, parseRadiotapInfo bs = .ok info) ↔ (Spec.rtFields bs).isSome = true :=
  (parseRadiotapInfo_sim bs).ok_iff

/-- **C02 (radiotap, against the Spec alone)** a header `Spec.rtFields` refuses refuses the frame; otherwise
the octets behind the Spec's header length are classified as `Spec.classifyCore` says, the FCS removed
exactly when bit 4 of the Spec's FLAGS value announces it, the radiotap flag (8) is set and the attached
record carries the Spec's values -/
theorem C02_radiotap_spec (bs : Bytes) :
    match Spec.rtFields bs with
    | none => classify true bs = .err (-EINVAL)
    | some (itLen, fields) =>
      let v := Spec.rtValues bs itLen fields Gen.m_LIBWIFI_MAX_RADIOTAP_ANTENNAS
      match Spec.classifyCore bs itLen (decide ((v.flags / 16) % 2 = 1)) with
      | none => classify true bs = .err (-EINVAL)
      | some s => ∃ info, classify true bs = .ok (C02.frameOf s 8 (some info)) ∧ valuesOf info = v ∧
          info.length = itLen ∧ info.flags = v.flags := by
  refine (parseRadiotapInfo_sim bs).elim (fun he => ?_) fun info p hi hv => ?_
  · rw [C02.C02_radiotap, he]
  · obtain ⟨itLen, fields⟩ := p
    have hlen : info.length = itLen := (congrArg Spec.RtValues.length hv).trans (rtValues_length ..)
    have hfl : info.flags = (Spec.rtValues bs itLen fields Gen.m_LIBWIFI_MAX_RADIOTAP_ANTENNAS).flags :=
      congrArg Spec.RtValues.flags hv
    rw [C02.C02_radiotap, hi]
    simp only
    rw [hlen, hfl]
    generalize Spec.classifyCore bs itLen _ = core
    cases core with
    | none => rfl
    | some s => exact ⟨info, rfl, hv, hlen, hfl⟩

def ErrInval {α} (o : Outcome α) : Prop := ∀ c, o = .err c → c = -EINVAL

theorem ErrInval.neg {α} {o : Outcome α} (h : ErrInval o) : ∀ c, o = .err c → c < 0 := by
  intro c hc; rw [h c hc]; decide

theorem ErrInval.ok {α} {a : α} : ErrInval (.ok a : Outcome α) := fun _ h => by cases h
theorem ErrInval.fault {α} {f : Fault} : ErrInval (.fault f : Outcome α) := fun _ h => by cases h
theorem ErrInval.err {α} : ErrInval (.err (-EINVAL) : Outcome α) := fun _ h => by cases h; rfl

theorem ErrInval.bind {α β} {x : Outcome α} {f : α → Outcome β} (hx : ErrInval x) (hf : ∀ a, ErrInval (f a)) :
    ErrInval (x >>= f) := by
  cases x with
  | ok a => exact hf a
  | err c => intro c' h; cases h; exact hx c rfl
  | fault g => exact .fault

theorem ErrInval.ite {α} {c : Prop} [Decidable c] {x y : Outcome α} (hx : ErrInval x) (hy : ErrInval y) :
    ErrInval (if c then x else y) := by
  split
  · exact hx
  · exact hy

theorem ErrInval.rd {w : String} {bs : Bytes} {i : Nat} : ErrInval (rd w bs i) := by
  unfold LWV.rd; split
  · exact .ok
  · exact .fault

theorem ErrInval.rdSlice {w : String} {bs : Bytes} {i n : Nat} : ErrInval (rdSlice w bs i n) := .ite .ok .fault

theorem parseRadiotapInfo_err (bs : Bytes) : ErrInval (parseRadiotapInfo bs) := (parseRadiotapInfo_sim bs).eq_of_err

theorem classify_err (rt : Bool) (bs : Bytes) : ErrInval (classify rt bs) :=
  .ite (.bind (parseRadiotapInfo_err bs) fun _ => (C02.classifyCore_sim ..).eq_of_err) (C02.classifyCore_sim ..).eq_of_err

theorem parseData_err (f : Frame) : ErrInval (parseData f) := by
  unfold parseData
  split
  · exact .ite .err (.bind .rdSlice fun _ => .bind .rdSlice fun _ => .ok)
  · exact .err

theorem reported_err (bs : Bytes) : ErrInval (reported bs) := by
  rw [C06.C06_exact]
  exact .ite .ok .err

theorem getRsnInfo_err (el : Bytes) : ErrInval (getRsnInfo el) := (C08.getRsnInfo_sim el).eq_of_err

theorem getWpaInfo_err (el : Bytes) : ErrInval (getWpaInfo el) := (C08.getWpaInfo_sim el).eq_of_err

theorem walkTags_err {σ} {tags : Bytes} {f : σ → Spec.ElemAt → Outcome σ} {s0 : σ} {g : σ → Parsed} :
    ErrInval (walkTags tags f s0 g) := by
  unfold walkTags
  split
  · split
    · exact .ok
    · exact .err
    · exact .fault
  · exact .err
  · exact .fault

theorem parseBssKind_err {f : Frame} {fixedLen capsOff : Nat} {a1 a2 a3 : Bytes} :
    ErrInval (parseBssKind f fixedLen capsOff a1 a2 a3) :=
  .ite .err <| .ite .err <| .bind .rd fun _ => .bind .rd fun _ => .bind .rdSlice fun _ => walkTags_err

theorem parseStaKind_err {f : Frame} {fixedLen : Nat} {strict : Bool} {a2 a3 : Bytes} :
    ErrInval (parseStaKind f fixedLen strict a2 a3) :=
  .ite .err <| .bind .rdSlice fun _ => walkTags_err

theorem parseReasonKind_err {f : Frame} {fixedLen : Nat} : ErrInval (parseReasonKind f fixedLen) :=
  .ite .err <| .bind .rd fun _ => .bind .rd fun _ => .bind .rdSlice fun _ => .ok

theorem parseMgmt_err (k : MKind) (f : Frame) : ErrInval (parseMgmt k f) := by
  by_cases ht : typeOk f k = true
  · rcases C04Full.MKind.trichotomy k with hk | hk | hk
    · rw [C04Full.parseMgmt_bss k hk f ht]; exact parseBssKind_err
    · rw [C04Full.parseMgmt_sta k hk f ht]; exact parseStaKind_err
    · rw [C04Full.parseMgmt_reason k hk f ht]; exact parseReasonKind_err
  · rw [C04.C04_other_subtype k f (Bool.eq_false_iff.mpr ht)]; exact .err

theorem checkHandshake_err (f : Frame) : ErrInval (checkHandshake f) :=
  .ite .ok <| .ite .ok <| .bind .rdSlice fun _ => .ite .ok <| .bind .rd fun _ => .bind .rd fun _ =>
    .ite .ok <| .ite .ok .ok

theorem getWpaData_err (f : Frame) : ErrInval (getWpaData f) :=
  .bind (checkHandshake_err f) fun _ => .ite .err <|
    .bind .rd fun _ => .bind .rd fun _ => .bind .rdSlice fun _ => .bind .rd fun _ =>
    .bind .rdSlice fun _ => .bind .rdSlice fun _ => .bind .rdSlice fun _ => .bind .rdSlice fun _ =>
    .bind .rdSlice fun _ => .bind .rdSlice fun _ => .bind .rdSlice fun _ => .bind .rdSlice fun _ =>
    .bind .rdSlice fun _ => .bind .rdSlice fun _ => .ok

theorem checkMessage_err (f : Frame) : ErrInval (checkMessage f) :=
  .ite .ok <| .bind .rd fun _ => .bind .rd fun _ => .ok

theorem keyDataLength_err (f : Frame) : ErrInval (keyDataLength f) :=
  .bind (checkHandshake_err f) fun _ => .ite .ok <| .bind .rd fun _ => .bind .rd fun _ => .ok

/-- **C01 (error codes)** whatever any parsing entry point reports as an error is a negative code
(in fact always -EINVAL) — for all inputs, no assumption on the frame handed to the parsers -/
theorem C01_error_codes :
    (∀ rt bs c, classify rt bs = .err c → c < 0) ∧
    (∀ bs c, parseRadiotapInfo bs = .err c → c < 0) ∧
    (∀ f c, parseData f = .err c → c < 0) ∧
    (∀ k f c, parseMgmt k f = .err c → c < 0) ∧
    (∀ f c, getWpaData f = .err c → c < 0) ∧
    (∀ f c, checkHandshake f = .err c → c < 0) ∧
    (∀ f c, checkMessage f = .err c → c < 0) ∧
    (∀ f c, keyDataLength f = .err c → c < 0) ∧
    (∀ bs c, reported bs = .err c → c < 0) ∧
    (∀ el c, getRsnInfo el = .err c → c < 0) ∧
    (∀ el c, getWpaInfo el = .err c → c < 0) :=
  ⟨fun rt bs => (classify_err rt bs).neg, fun bs => (parseRadiotapInfo_err bs).neg, fun f => (parseData_err f).neg,
    fun k f => (parseMgmt_err k f).neg, fun f => (getWpaData_err f).neg, fun f => (checkHandshake_err f).neg,
    fun f => (checkMessage_err f).neg, fun f => (keyDataLength_err f).neg,
    fun bs => (reported_err bs).neg, fun el => (getRsnInfo_err el).neg, fun el => (getWpaInfo_err el).neg⟩

/-- classification ends in exactly one of: success, or the error -EINVAL (never a fault: C01) -/
theorem classify_ok_or_einval (rt : Bool) (bs : Bytes) :
    (∃ f, classify rt bs = .ok f) ∨ classify rt bs = .err (-EINVAL) := by
  cases h : classify rt bs with
  | ok f => exact Or.inl ⟨f, rfl⟩
  | err c => rw [classify_err rt bs c h]; exact Or.inr rfl
  | fault x => exact absurd h (C01.C01_classify rt bs x)

/-- removing the generated header and the announced FCS leaves exactly the frame -/
theorem classifyCore_behind {hdr : Bytes} (fr tail : Bytes) {fcs : Bool} (ht : tail.length = if fcs then 4 else 0) :
    Spec.classifyCore (hdr ++ fr ++ tail) hdr.length fcs = C02.coreOf fr fcs := by
  rw [C02.classifyCore_coreOf]
  have hdrop : (hdr ++ fr ++ tail).drop hdr.length = fr ++ tail := by
    rw [List.append_assoc, List.drop_left]
  rw [hdrop]
  cases fcs with
  | false =>
    rw [List.eq_nil_of_length_eq_zero ht, List.append_nil]
    rfl
  | true =>
    have h4 : tail.length = 4 := ht
    have hlen : ¬ ((fr ++ tail).length < 4) := Nat.not_lt.2 (by rw [List.length_append, h4]; exact Nat.le_add_left 4 _)
    have htake : (fr ++ tail).take ((fr ++ tail).length - 4) = fr := by
      rw [List.length_append, h4, Nat.add_sub_cancel, List.take_left]
    simp only [hlen, and_false, if_false, if_true, htake]

/-- the FLAGS field of the generated header is selected and announces a trailing FCS -/
def announcesFcs (g : RtGen) : Bool := g.present.testBit 1 && decide ((g.flags / 16) % 2 = 1)

theorem frameOf_radiotap (s : Spec.Slices) (hs : s.fcs = false) {c : Bool} {ri : Option RtInfo} :
    C02.frameOf { s with fcs := c } 8 ri =
      { C02.frameOf s 0 none with flags := (C02.frameOf s 0 none).flags ||| 8 ||| (if c then 1 else 0), radiotap := ri } := by
  simp only [C02.frameOf, hs, Bool.false_eq_true, if_false, Nat.or_zero, Nat.zero_or]
  congr 1
  rw [Nat.or_assoc, Nat.or_comm, ← Nat.or_assoc]

/-- behind the generated header (and before the four FCS octets, exactly when the header's FLAGS field
announces them) a frame is classified as it is bare; the radiotap record and the flags are added -/
theorem classify_prefix (g : RtGen) (hc : C10.OnlyCarried g) (ha : g.antennaCount ≤ 16) (fr tail : Bytes)
    (htail : tail.length = if announcesFcs g then 4 else 0) :
    ∃ info, valuesOf info = roundtripValues g (Spec.rtEncode (C10.descOf g)).length ∧
      classify true (Spec.rtEncode (C10.descOf g) ++ fr ++ tail) = classify false fr >>= fun f =>
        .ok { f with flags := f.flags ||| 8 ||| (if announcesFcs g then 1 else 0), radiotap := some info } := by
  obtain ⟨info, hi, hv⟩ := C10_roundtrip_ext g hc ha (fr ++ tail)
  have hlen : info.length = (Spec.rtEncode (C10.descOf g)).length := congrArg Spec.RtValues.length hv
  have hfl : info.flags = if g.present.testBit 1 then g.flags % 256 else 0 := congrArg Spec.RtValues.flags hv
  -- bit 4 of the FLAGS octet is bit 4 of the value it was cut from
  have hbit : g.flags % 256 / 16 % 2 = g.flags / 16 % 2 :=
    (congrArg (· % 2) (Nat.mod_mul_right_div_self g.flags 16 16)).trans (Nat.mod_mod_of_dvd _ (by decide))
  have hfcs : decide (info.flags / 16 % 2 = 1) = announcesFcs g := by
    rw [hfl, announcesFcs]
    cases g.present.testBit 1 <;> simp [hbit]
  refine ⟨info, hv, ?_⟩
  rw [C02.C02_radiotap, List.append_assoc, hi]
  simp only
  -- the last step: every slice record `coreOf fr false` returns has `fcs = false`
  rw [← List.append_assoc, hlen, hfcs, classifyCore_behind fr tail htail, C02.coreOf_fcs, C02.C02_plain,
    C02.classifyCore_plain, C02.coreOf_fcs fr false]
  cases C02.coreOf fr false with
  | none => rfl
  | some s => exact congrArg Outcome.ok (frameOf_radiotap { s with fcs := false } rfl)

/-- **C10 (prefix invariance)** prepending the generated header (and appending the four FCS octets
exactly when the header's FLAGS field announces them) does not change the classification of a frame -/
theorem C10_prefix_invariance (g : RtGen) (hc : C10.OnlyCarried g) (ha : g.antennaCount ≤ 16) (fr tail : Bytes)
    (htail : tail.length = if announcesFcs g then 4 else 0) :
    let hdr := Spec.rtEncode (C10.descOf g)
    (classify true (hdr ++ fr ++ tail) = .err (-EINVAL) ↔ classify false fr = .err (-EINVAL)) ∧
    (∀ f0, classify false fr = .ok f0 →
      ∃ f1 info, classify true (hdr ++ fr ++ tail) = .ok f1 ∧
        f1.len = f0.len ∧ f1.headerLen = f0.headerLen ∧ f1.fc = f0.fc ∧ f1.header = f0.header ∧ f1.body = f0.body ∧
        f1.flags = f0.flags ||| 8 ||| (if announcesFcs g then 1 else 0) ∧
        f0.radiotap = none ∧ f1.radiotap = some info ∧ valuesOf info = roundtripValues g hdr.length) ∧
    (∀ f1, classify true (hdr ++ fr ++ tail) = .ok f1 → ∃ f0, classify false fr = .ok f0) := by
  intro hdr
  obtain ⟨info, hv, h⟩ := classify_prefix g hc ha fr tail htail
  rw [h]
  cases h0 : classify false fr with
  | err _ | fault _ => refine ⟨Iff.rfl, ?_, ?_⟩ <;> intro _ h <;> cases h
  | ok f0 =>
    obtain ⟨s, -, rfl⟩ := (C02.classifyCore_sim fr 0 false 0 none).exists_of_ok h0
    exact ⟨⟨nofun, nofun⟩, fun f h => by cases h; exact ⟨_, info, rfl, rfl, rfl, rfl, rfl, rfl, rfl, rfl, rfl, hv⟩, fun _ _ => ⟨_, rfl⟩⟩

theorem announcesFcs_iff (g : RtGen) :
    announcesFcs g = true ↔ (g.present.testBit 1 = true ∧ (g.flags / 16) % 2 = 1) := by
  simp only [announcesFcs, Bool.and_eq_true, decide_eq_true_eq]

/-- `C10_prefix_invariance` for the octets the model of `libwifi_create_radiotap` returns, which are the
Spec's encoding (`C10.C10_valid`) -/
theorem C10_prefix_invariance_created (g : RtGen) (hc : C10.OnlyCarried g) (ha : g.antennaCount ≤ 16)
    (hdr fr tail : Bytes) (hgen : createRadiotap g = .ok hdr) (htail : tail.length = if announcesFcs g then 4 else 0) :
    (classify true (hdr ++ fr ++ tail) = .err (-EINVAL) ↔ classify false fr = .err (-EINVAL)) ∧
    (∀ f0, classify false fr = .ok f0 →
      ∃ f1 info, classify true (hdr ++ fr ++ tail) = .ok f1 ∧
        f1.len = f0.len ∧ f1.headerLen = f0.headerLen ∧ f1.fc = f0.fc ∧ f1.header = f0.header ∧ f1.body = f0.body ∧
        f1.flags = f0.flags ||| 8 ||| (if announcesFcs g then 1 else 0) ∧
        f0.radiotap = none ∧ f1.radiotap = some info ∧ valuesOf info = roundtripValues g hdr.length) ∧
    (∀ f1, classify true (hdr ++ fr ++ tail) = .ok f1 → ∃ f0, classify false fr = .ok f0) := by
  rw [C10.C10_valid g hc ha] at hgen
  cases hgen
  exact C10_prefix_invariance g hc ha fr tail htail

/-- A: a chain of present words that leaves the header (both words carry bit 31, `it_len` = 12, all
header-level conditions fine): refused by the Spec and by the parser -/
example : Spec.rtFields [0, 0, 12, 0, 0, 0, 0, 0x80, 0, 0, 0, 0x80] = none ∧
    ¬ (([0, 0, 12, 0, 0, 0, 0, 0x80, 0, 0, 0, 0x80] : Bytes).length < 8 ∨ Spec.u8 [0, 0, 12, 0, 0, 0, 0, 0x80, 0, 0, 0, 0x80] 0 ≠ 0 ∨
      Spec.u16 [0, 0, 12, 0, 0, 0, 0, 0x80, 0, 0, 0, 0x80] 2 < 8 ∨ Spec.u16 [0, 0, 12, 0, 0, 0, 0, 0x80, 0, 0, 0, 0x80] 2 > 12 ∨
      Spec.u16 [0, 0, 12, 0, 0, 0, 0, 0x80, 0, 0, 0, 0x80] 2 > 255) ∧
    parseRadiotapInfo [0, 0, 12, 0, 0, 0, 0, 0x80, 0, 0, 0, 0x80] = .err (-EINVAL) := by
  decide +kernel

/-- A: the chain leaves the header at the very first extension (`it_len` = 8) -/
example : Spec.rtFields [0, 0, 8, 0, 0, 0, 0, 0x80, 1, 2, 3, 4] = none ∧
    parseRadiotapInfo [0, 0, 8, 0, 0, 0, 0, 0x80, 1, 2, 3, 4] = .err (-EINVAL) := by
  decide +kernel

/-- B: FLAGS = 0x10 (FCS at end) in a 9-octet header, then a 4-octet control frame and 4 FCS octets:
all three Spec stages accept, and the classifier reports what `C02_radiotap_spec` says -/
example :
    Spec.rtFields [0, 0, 9, 0, 2, 0, 0, 0, 0x10, 0xd4, 0, 0, 0, 1, 2, 3, 4] = some (9, [⟨1, 8⟩]) ∧
    (Spec.rtValues [0, 0, 9, 0, 2, 0, 0, 0, 0x10, 0xd4, 0, 0, 0, 1, 2, 3, 4] 9 [⟨1, 8⟩] Gen.m_LIBWIFI_MAX_RADIOTAP_ANTENNAS).flags = 0x10 ∧
    Spec.classifyCore [0, 0, 9, 0, 2, 0, 0, 0, 0x10, 0xd4, 0, 0, 0, 1, 2, 3, 4] 9 true =
      some { fcs := true, qos := false, ordered := false, len := 4, headerLen := 4, fc := [0xd4, 0],
             header := [0xd4, 0, 0, 0], body := [] } ∧
    classify true [0, 0, 9, 0, 2, 0, 0, 0, 0x10, 0xd4, 0, 0, 0, 1, 2, 3, 4] =
      .ok { flags := 9, fc := [0xd4, 0], len := 4, headerLen := 4, header := [0xd4, 0, 0, 0], body := [],
            radiotap := some { length := 9, flags := 0x10 } } := by
  decide +kernel

/-- B: the same header, but the announced FCS does not fit: refused -/
example : Spec.classifyCore [0, 0, 9, 0, 2, 0, 0, 0, 0x10, 0xd4, 0, 0] 9 true = none ∧
    classify true [0, 0, 9, 0, 2, 0, 0, 0, 0x10, 0xd4, 0, 0] = .err (-EINVAL) := by
  decide +kernel

/-- C: errors do occur -/
example : classify false [] = .err (-EINVAL) ∧ parseData ⟨0, [0x80, 0], 0, 0, [], [], none⟩ = .err (-EINVAL) ∧
    reported [0, 0x20] = .err (-EINVAL) := by
  decide +kernel

/-- D: FLAGS announcing an FCS: the generated header is `00 00 09 00 02 00 00 00 10`; a control frame
behind it (plus four FCS octets) is classified like the bare frame, with flags 8 | 1 -/
example : Spec.rtEncode (C10.descOf { present := 2, flags := 0x10 }) = [0, 0, 9, 0, 2, 0, 0, 0, 0x10] ∧
    announcesFcs { present := 2, flags := 0x10 } = true := by
  decide +kernel

example : ∃ f1, classify true (Spec.rtEncode (C10.descOf { present := 2, flags := 0x10 }) ++ [0xd4, 0, 0, 0] ++ [1, 2, 3, 4]) = .ok f1 ∧
    f1.flags = 9 ∧ f1.len = 4 ∧ f1.header = [0xd4, 0, 0, 0] := by
  obtain ⟨-, h, -⟩ := C10_prefix_invariance { present := 2, flags := 0x10 } (C10.onlyCarried_of_subset _ (by decide)) (by decide)
    [0xd4, 0, 0, 0] [1, 2, 3, 4] (by decide)
  obtain ⟨f1, info, h1, h2, -, -, h5, -, h7, -⟩ := h
    { flags := 0, fc := [0xd4, 0], len := 4, headerLen := 4, header := [0xd4, 0, 0, 0], body := [], radiotap := none }
    (by decide +kernel)
  exact ⟨f1, h1, h7, h2, h5⟩

/-- D: without the FLAGS field no FCS is expected and none is appended -/
example : ∃ f1, classify true (Spec.rtEncode (C10.descOf { present := 4, rateRaw := 12 }) ++ [0xd4, 0, 0, 0] ++ []) = .ok f1 ∧
    f1.flags = 8 ∧ f1.len = 4 := by
  obtain ⟨-, h, -⟩ := C10_prefix_invariance { present := 4, rateRaw := 12 } (C10.onlyCarried_of_subset _ (by decide)) (by decide)
    [0xd4, 0, 0, 0] [] (by decide)
  obtain ⟨f1, info, h1, h2, -, -, -, -, h7, -⟩ := h
    { flags := 0, fc := [0xd4, 0], len := 4, headerLen := 4, header := [0xd4, 0, 0, 0], body := [], radiotap := none }
    (by decide +kernel)
  exact ⟨f1, h1, h7, h2⟩

end LWV.Props.C02Full
