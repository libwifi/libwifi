import LWV.Model.Mgmt
import LWV.Spec.Mgmt
import LWV.Lemmas.Assoc
import LWV.Lemmas.Outcome
/-
C08 — security classification follows the RSN and WPA elements exactly.

Here: the compiled enumeration tables are the documented selector → flag assignment (`C08_tables`,
`C08_flags_distinct`), and the two element walkers decide the Spec's decoders for every element
body (`C08_rsn_decode`, `C08_wpa_decode`).  The enumeration of a decoded element
(`enumerateRsn_eq`, `enumerateWpa_eq`), the WEP clearing (`clearWep_eq`) and the frame-level summary
(`C08_summary`, `C08_summary_plain`) stand in `Props/C04Full.lean`, beside the parsers that use them.
-/
namespace LWV.Props.C08
open LWV LWV.Model

/-- the enumeration the Spec's selector tables prescribe, in the translator's tabulation order:
(position, OUI class, selector, flags) -/
def rsnExpected : List (Nat × Nat × Nat × Nat) :=
  Spec.rsnGroupBit.map (fun e => (0, 0, e.1, Spec.bit e.2)) ++
  Spec.rsnPairwiseBit.map (fun e => (1, 0, e.1, Spec.bit e.2)) ++
  Spec.akmBit.map (fun e => (2, 0, e.1, Spec.bit e.2 ||| Spec.bit (Spec.rsnGeneration e.1)))

def wpaExpected : List (Nat × Nat × Nat × Nat) :=
  Spec.wpaMulticastBit.map (fun e => (0, 1, e.1, Spec.bit e.2)) ++
  Spec.wpaUnicastBit.map (fun e => (1, 1, e.1, Spec.bit e.2)) ++
  Spec.wpaAkmSel.map (fun s => (2, 1, s, Spec.lookupBit Spec.akmBit s ||| Spec.bit 2))

/-- **C08 (tables)** the exhaustive tabulation of the compiled enumeration routines (every selector
0..255 x {IEEE, Microsoft, foreign OUI} x {group, pairwise, AKM}) is exactly the documented
assignment: suites count only under the element's own OUI, undefined selectors contribute
nothing, each AKM carries its documented generation -/
theorem C08_tables :
    Gen.rsnEnum = rsnExpected ∧ Gen.wpaEnum = wpaExpected ∧
    Gen.s_CIPHER_SUITE_OUI = Spec.ieeeOui ∧ Gen.s_MICROSOFT_OUI = Spec.msOui ∧
    Gen.m_MICROSOFT_OUI_TYPE_WPA = 1 ∧ Gen.m_MICROSOFT_OUI_TYPE_WPS = 4 ∧ Gen.m_LIBWIFI_MAX_CIPHER_SUITES = 6 ∧
    Gen.m_WEP = 2 ∧ Gen.m_WPA = 4 ∧ Gen.m_WPA2 = 8 ∧ Gen.m_WPA3 = 16 := by decide +kernel

/-- the generation bits 1..4, the group-cipher bits 5..17, the range 18..31 and the AKM bits 32..53 are
pairwise distinct (the list is increasing); every pairwise / unicast cipher bit lies in 18..31; the WPA
multicast assignments are among the RSN group assignments -/
theorem C08_flags_distinct :
    (([1, 2, 3, 4] : List Nat) ++ Spec.rsnGroupBit.map Prod.snd ++ [18, 19, 20, 21, 22, 23, 24, 25, 26, 27, 28, 29, 30, 31] ++ Spec.akmBit.map Prod.snd).Nodup ∧
    (∀ e ∈ Spec.rsnPairwiseBit ++ Spec.wpaUnicastBit, 18 ≤ e.2 ∧ e.2 ≤ 31) ∧
    (∀ e ∈ Spec.wpaMulticastBit, e ∈ Spec.rsnGroupBit) :=
  ⟨List.Pairwise.of_map Int.ofNat (fun _ _ h e => h (congrArg _ e)) (strictAsc_nodup (by decide +kernel)), by decide +kernel, by decide +kernel⟩

/-! The two walkers share one walk (`suiteWalk`), computed totally in `suiteWalk_eq`; the Spec's
decoders have the same closed form (`rsnDecode_eq`, `wpaDecode_eq`), so each walker decides its decoder. -/

theorem le16El_ok (el : Bytes) (off : Nat) (h : off + 1 < el.length) : le16El el off = .ok (Spec.u16le el off) := by
  unfold le16El
  rw [rd_getD (Nat.lt_of_succ_lt h), rd_getD h]
  rfl

def toSel (s : Suite) : Spec.SuiteSel := ⟨s.oui, s.ty⟩

/-- the stored form of a selector (inverse of `toSel`) -/
def ofSel (s : Spec.SuiteSel) : Suite := ⟨s.oui, s.ty⟩

theorem map_toSel_ofSel (l : List Spec.SuiteSel) : (l.map ofSel).map toSel = l := by
  rw [List.map_map]
  exact List.map_id' l

theorem suitesS_succ (bs : Bytes) (i n : Nat) :
    Spec.suitesS bs i (n + 1) = Spec.suiteAtS bs i :: Spec.suitesS bs (i + 4) n := by
  unfold Spec.suitesS
  rw [List.range_succ_eq_map, List.map_cons, List.map_map]
  congr 1
  apply List.map_congr_left
  intro k _
  exact congrArg (Spec.suiteAtS bs) (by rw [Nat.mul_succ, Nat.add_comm (4 * k) 4, Nat.add_assoc])

theorem suiteAt_eq (el : Bytes) (off : Nat) (h : off + 4 ≤ el.length) :
    suiteAt el off = .ok (ofSel (Spec.suiteAtS el off)) := by
  unfold suiteAt
  rw [rdSlice_ok h, Outcome.bind_ok, List.take_take]
  simp only [ofSel, Spec.suiteAtS, List.getD_eq_getElem?_getD, List.getElem?_take, List.getElem?_drop]
  rfl

theorem suitesAt_eq (el : Bytes) (off n : Nat) (h : off + 4 * n ≤ el.length) :
    suitesAt el off n = .ok ((Spec.suitesS el off n).map ofSel) := by
  induction n generalizing off with
  | zero => rfl
  | succ n ih =>
    have h' : off + 4 + 4 * n ≤ el.length := by rw [Nat.add_assoc, Nat.add_comm 4, ← Nat.mul_succ]; exact h
    unfold suitesAt
    rw [suiteAt_eq el off (Nat.le_trans (Nat.le_add_right _ _) h'), ih (off + 4) h', suitesS_succ]
    rfl

/-- the C idiom `if (end - p < 2) return -e; v = le16(p);` -/
theorem le16El_guarded {β} (el : Bytes) (off : Nat) (e : Int) (f : Nat → Outcome β) :
    (if el.length - off < 2 then .err e else le16El el off >>= f) =
      if el.length < off + 2 then .err e else f (Spec.u16le el off) := by
  have hc : el.length - off < 2 ↔ el.length < off + 2 := by
    rw [← Nat.not_le, ← Nat.not_le]
    exact not_congr Nat.lt_sub_iff_add_lt'
  refine ite_congr (propext hc) (fun _ => rfl) fun h => ?_
  rw [le16El_ok el off (Nat.not_lt.1 h), Outcome.bind_ok]

/-- one suite list, totally: refused exactly when the element cannot hold the declared suites -/
theorem suiteList_eq (el : Bytes) (data : Nat) :
    suiteList el data =
      if el.length < data + 2 + 4 * Spec.u16le el data then .err (-EINVAL)
      else .ok ((Spec.suitesS el (data + 2) (min (Spec.u16le el data) 6)).map ofSel,
                data + 2 + 4 * Spec.u16le el data) := by
  unfold suiteList
  rw [le16El_guarded, Nat.mul_comm, ite_sub_guard]
  by_cases h : el.length < data + 2 + 4 * Spec.u16le el data
  · rw [if_pos h, if_pos h]
  · rw [if_neg h, if_neg h, suitesAt_eq el _ _
      (Nat.le_trans (Nat.add_le_add_left (Nat.mul_le_mul_left 4 (Nat.min_le_left _ _)) _) (Nat.not_lt.1 h))]
    rfl

/-- what the two walkers share: length guard, version, group suite, two suite lists; the rest is `k` -/
def suiteWalk {α} (el : Bytes) (k : Nat → Suite → List Suite → List Suite → Nat → Outcome α) : Outcome α :=
  if el.length < 6 then .err (-EINVAL)
  else do
    let version ← le16El el 0
    let group ← suiteAt el 2
    let (pw, d1) ← suiteList el 6
    let (ak, d2) ← suiteList el d1
    k version group pw ak d2

theorem getRsnInfo_walk (el : Bytes) :
    getRsnInfo el = suiteWalk el (fun version group pw ak d2 =>
      if el.length - d2 < 2 then .err (-EINVAL)
      else do
        let caps ← le16El el d2
        .ok { version := version, group := group, pairwise := pw, akms := ak, caps := caps }) := rfl

theorem getWpaInfo_walk (el : Bytes) :
    getWpaInfo el = suiteWalk el (fun version mc uc ak _ =>
      .ok { version := version, multicast := mc, unicast := uc, akms := ak }) := rfl

/-- offset of the AKM list -/
def akmOff (el : Bytes) : Nat := 8 + 4 * Spec.u16le el 6
/-- offset after the AKM list -/
def tailOff (el : Bytes) : Nat := akmOff el + 2 + 4 * Spec.u16le el (akmOff el)

theorem akmOff_ge (el : Bytes) : 8 ≤ akmOff el := Nat.le_add_right _ _
theorem tailOff_ge (el : Bytes) : akmOff el + 2 ≤ tailOff el := Nat.le_add_right _ _

theorem suiteWalk_eq {α} (el : Bytes) (k : Nat → Suite → List Suite → List Suite → Nat → Outcome α) :
    suiteWalk el k =
      if el.length < tailOff el then .err (-EINVAL)
      else k (Spec.u16le el 0) (ofSel (Spec.suiteAtS el 2))
             ((Spec.suitesS el 8 (min (Spec.u16le el 6) 6)).map ofSel)
             ((Spec.suitesS el (akmOff el + 2) (min (Spec.u16le el (akmOff el)) 6)).map ofSel)
             (tailOff el) := by
  have ht := tailOff_ge el
  unfold suiteWalk
  rcases Nat.lt_or_ge el.length 6 with h6 | h6
  · rw [if_pos h6, if_pos (Nat.lt_of_lt_of_le h6
      (Nat.le_trans (by decide : 6 ≤ 8 + 2) (Nat.le_trans (Nat.add_le_add_right (akmOff_ge el) 2) ht)))]
  · rw [if_neg (Nat.not_lt.2 h6), le16El_ok el 0 (Nat.lt_of_lt_of_le (by decide) h6), suiteAt_eq el 2 h6]
    simp only [Outcome.bind_ok, suiteList_eq, Outcome.guard_bind, Nat.reduceAdd]
    exact ite_absorb (fun h => Nat.lt_of_lt_of_le h (Nat.le_trans (Nat.le_add_right _ 2) ht)) _ _

/-- the three nested guards of the Spec's decoders are one: the last bound dominates -/
theorem decode_guards_eq {β} (el : Bytes) (c : Nat) (hc : tailOff el ≤ c) (r : β) :
    (if el.length < 8 then none else if el.length < akmOff el + 2 then none
      else if el.length < c then none else some r) =
      if el.length < c then none else some r := by
  have ht : akmOff el + 2 ≤ c := Nat.le_trans (tailOff_ge el) hc
  rw [ite_absorb (c₁ := el.length < akmOff el + 2) (fun h => Nat.lt_of_lt_of_le h ht),
    ite_absorb (fun h => Nat.lt_of_lt_of_le h (Nat.le_trans (akmOff_ge el) (Nat.le_of_add_right_le ht)))]

theorem rsnDecode_eq (el : Bytes) :
    Spec.rsnDecode el =
      if el.length < tailOff el + 2 then none
      else some { version := Spec.u16le el 0, group := Spec.suiteAtS el 2,
                  pairwise := Spec.suitesS el 8 (min (Spec.u16le el 6) 6),
                  akms := Spec.suitesS el (akmOff el + 2) (min (Spec.u16le el (akmOff el)) 6),
                  caps := Spec.u16le el (tailOff el) } :=
  decode_guards_eq el _ (Nat.le_add_right _ 2) _

theorem wpaDecode_eq (el : Bytes) :
    Spec.wpaDecode el =
      if el.length < tailOff el then none
      else some { version := Spec.u16le el 0, multicast := Spec.suiteAtS el 2,
                  unicast := Spec.suitesS el 8 (min (Spec.u16le el 6) 6),
                  akms := Spec.suitesS el (akmOff el + 2) (min (Spec.u16le el (akmOff el)) 6) } :=
  decode_guards_eq el _ (Nat.le_refl _) _

/-- the stored form of a decoded element -/
def ofRsn (d : Spec.RsnDecoded) : RsnInfo :=
  { version := d.version, group := ofSel d.group, pairwise := d.pairwise.map ofSel,
    akms := d.akms.map ofSel, caps := d.caps }

def ofWpa (d : Spec.WpaDecoded) : WpaInfo :=
  { version := d.version, multicast := ofSel d.multicast, unicast := d.unicast.map ofSel,
    akms := d.akms.map ofSel }

theorem ofRsn_sel (d : Spec.RsnDecoded) :
    (ofRsn d).version = d.version ∧ toSel (ofRsn d).group = d.group ∧ (ofRsn d).pairwise.map toSel = d.pairwise ∧
      (ofRsn d).akms.map toSel = d.akms ∧ (ofRsn d).caps = d.caps :=
  ⟨rfl, rfl, map_toSel_ofSel _, map_toSel_ofSel _, rfl⟩

theorem ofWpa_sel (d : Spec.WpaDecoded) :
    (ofWpa d).version = d.version ∧ toSel (ofWpa d).multicast = d.multicast ∧ (ofWpa d).unicast.map toSel = d.unicast ∧
      (ofWpa d).akms.map toSel = d.akms :=
  ⟨rfl, rfl, map_toSel_ofSel _, map_toSel_ofSel _⟩

theorem getRsnInfo_sim (el : Bytes) : Sim (fun i d => i = ofRsn d) (getRsnInfo el) (Spec.rsnDecode el) := by
  rw [getRsnInfo_walk, suiteWalk_eq, rsnDecode_eq, le16El_guarded, ite_absorb (fun h => Nat.lt_add_right 2 h)]
  exact Sim.ite (fun _ => Sim.err) fun _ => Sim.ok (by rw [ofRsn])

theorem getWpaInfo_sim (el : Bytes) : Sim (fun i d => i = ofWpa d) (getWpaInfo el) (Spec.wpaDecode el) := by
  rw [getWpaInfo_walk, suiteWalk_eq, wpaDecode_eq]
  exact Sim.ite (fun _ => Sim.err) fun _ => Sim.ok (by rw [ofWpa])

/-- **C08 (RSN decode)** for EVERY element body: the decoded version, group suite, stored pairwise
and AKM suites (at most six each) and capabilities are the element's bytes at their offsets; an
element too short for its own counts (or without capabilities) makes the walk fail -/
theorem C08_rsn_decode (el : Bytes) :
    match Spec.rsnDecode el with
    | none => getRsnInfo el = .err (-EINVAL)
    | some d => ∃ i, getRsnInfo el = .ok i ∧ i.version = d.version ∧ toSel i.group = d.group ∧
        i.pairwise.map toSel = d.pairwise ∧ i.akms.map toSel = d.akms ∧ i.caps = d.caps :=
  (getRsnInfo_sim el).elim id fun _ d hi h => ⟨_, hi, h ▸ ofRsn_sel d⟩

/-- **C08 (WPA decode)** likewise for the body of the WPA element after OUI and type; it has no
capabilities field, so it may end with the AKM list -/
theorem C08_wpa_decode (el : Bytes) :
    match Spec.wpaDecode el with
    | none => getWpaInfo el = .err (-EINVAL)
    | some d => ∃ i, getWpaInfo el = .ok i ∧ i.version = d.version ∧ toSel i.multicast = d.multicast ∧
        i.unicast.map toSel = d.unicast ∧ i.akms.map toSel = d.akms :=
  (getWpaInfo_sim el).elim id fun _ d hi h => ⟨_, hi, h ▸ ofWpa_sel d⟩

end LWV.Props.C08
