import LWV.Model.Describe
import LWV.Spec.Security
import LWV.Lemmas.Assoc
/-
C17 — security descriptions are complete, correctly named and fit their buffer.
`Gen.desc_*` (bit, name) tables are regenerated by tabulating the compiled routines on every
single bit and on the all-ones summary; `Gen.m_LIBWIFI_SECURITY_BUF_LEN` from the header.
-/
namespace LWV.Props.C17
open LWV LWV.Model

/-- the C loop visits the items the summary selects -/
theorem foldl_filter_items (cap : Nat) (table : List (Nat × Name)) (v : Nat) (st : DescState) :
    table.foldl (fun st e => if v.testBit e.1 then addItem cap st (Name.bytes e.2) else st) st
      = ((table.filter (fun e => v.testBit e.1)).map (fun e => Name.bytes e.2)).foldl (addItem cap) st := by
  rw [List.foldl_map, List.foldl_filter]

theorem joinComma_append (a b : Text) (t : List Text) :
    Spec.joinComma ((a ++ b) :: t) = a ++ Spec.joinComma (b :: t) := by
  cases t with
  | nil => rfl
  | cons y t => simp only [Spec.joinComma, List.append_assoc]

theorem addItems_text_append (cap : Nat) {st : DescState} (hst : st.append = true) (items : List Text) :
    (items.foldl (addItem cap) st).text = Spec.joinComma (st.text :: items) := by
  induction items generalizing st with
  | nil => rfl
  | cons i t ih =>
    rw [List.foldl_cons, ih rfl]
    unfold addItem
    rw [hst]
    exact joinComma_append (st.text ++ sep) i t

theorem addItems_text (cap : Nat) (items : List Text) :
    (items.foldl (addItem cap) ⟨[], false, false⟩).text = Spec.joinComma items := by
  cases items with
  | nil => rfl
  | cons i t => exact addItems_text_append cap rfl t

theorem describeWith_text (cap : Nat) (table : List (Nat × Name)) (none : Name) (v : Nat) :
    (describeWith cap table none v).text = Spec.descText table none v := by
  unfold describeWith Spec.descText
  by_cases h : v = 0
  · rw [if_pos h, if_pos h]
  · rw [if_neg h, if_neg h, foldl_filter_items, addItems_text]

/-- **C17 (text)** for every summary value the text is "None" or the comma-joined names of exactly
the set flags, in table order, each once. -/
theorem C17_text (r : Routine) (v : Nat) :
    (describe r v).text = Spec.descText r.table r.none v := describeWith_text ..

/-- length of the comma-join of all names of a table -/
def fullLen (table : List (Nat × Name)) : Nat :=
  (Spec.joinComma (table.map (fun e => Name.bytes e.2))).length

theorem joinComma_length_le (items : List Text) :
    (Spec.joinComma items).length ≤ (items.map (fun i => i.length + 2)).sum := by
  fun_induction Spec.joinComma items with
  | case1 => exact Nat.le_refl 0
  | case2 x => exact Nat.le_add_right ..
  | case3 x y t ih =>
    simp only [List.length_append, List.map_cons, List.sum_cons] at ih ⊢
    exact Nat.add_le_add_left ih _

theorem sum_map_filter_le {α} (f : α → Nat) (p : α → Bool) (l : List α) :
    ((l.filter p).map f).sum ≤ (l.map f).sum := by
  induction l with
  | nil => exact Nat.le_refl _
  | cons e t ih =>
    rw [List.filter_cons, List.map_cons, List.sum_cons]
    split
    · rw [List.map_cons, List.sum_cons]; exact Nat.add_le_add_left ih _
    · exact Nat.le_trans ih (Nat.le_add_left _ _)

/-- upper bound used for the buffer: Σ (len name + 2) over the whole table -/
def boundLen (table : List (Nat × Name)) : Nat := (table.map (fun e => (Name.bytes e.2).length + 2)).sum

theorem descText_length_le {table : List (Nat × Name)} {none : Name} {v : Nat} :
    (Spec.descText table none v).length ≤ max (Name.bytes none).length (boundLen table) := by
  unfold Spec.descText
  split
  · exact Nat.le_max_left _ _
  · refine Nat.le_trans (joinComma_length_le _) (Nat.le_trans ?_ (Nat.le_max_right _ _))
    rw [List.map_map]
    exact sum_map_filter_le _ _ table

/-- the one numeric side condition, re-decided against the regenerated tables and buffer size -/
theorem bound_fits : ∀ r ∈ Routine.all,
    max (Name.bytes r.none).length (boundLen r.table) < Gen.m_LIBWIFI_SECURITY_BUF_LEN := by decide +kernel

theorem mem_all (r : Routine) : r ∈ Routine.all := by cases r <;> decide

/-- **C17 (fits)** for ALL summary values the string is shorter than the documented buffer
(room for the terminating NUL). -/
theorem C17_fits (r : Routine) (v : Nat) :
    (describe r v).text.length < Gen.m_LIBWIFI_SECURITY_BUF_LEN := by
  rw [C17_text]
  exact Nat.lt_of_le_of_lt descText_length_le (bound_fits r (mem_all r))

theorem addItem_length_le (cap : Nat) (st : DescState) (i : Text) :
    st.text.length ≤ (addItem cap st i).text.length := by
  simp only [addItem]
  split
  · exact ((List.sublist_append_left _ _).trans (List.sublist_append_left _ _)).length_le
  · exact (List.sublist_append_left _ _).length_le

theorem addItems_length_le (cap : Nat) (st : DescState) (items : List Text) :
    st.text.length ≤ (items.foldl (addItem cap) st).text.length := by
  induction items generalizing st with
  | nil => exact Nat.le_refl _
  | cons i t ih => exact Nat.le_trans (addItem_length_le cap st i) (ih _)

theorem addItems_overflow {cap : Nat} {st : DescState} {items : List Text}
    (h : (items.foldl (addItem cap) st).text.length + 1 ≤ cap) (hst : st.overflow = false) :
    (items.foldl (addItem cap) st).overflow = false := by
  induction items generalizing st with
  | nil => exact hst
  | cons i t ih =>
    apply ih h
    -- the intermediate length is below the final one, which fits
    have hlt := addItems_length_le cap (addItem cap st i) t
    have hov : (addItem cap st i).overflow
        = (st.overflow || decide (cap < (addItem cap st i).text.length + 1)) := rfl
    rw [hov, hst, Bool.false_or, decide_eq_false_iff_not, Nat.not_lt]
    exact Nat.le_trans (Nat.succ_le_succ hlt) h

theorem describeWith_overflow {cap : Nat} {table : List (Nat × Name)} {none : Name} {v : Nat}
    (hfit : (describeWith cap table none v).text.length < cap) : (describeWith cap table none v).overflow = false := by
  unfold describeWith at hfit ⊢
  by_cases h : v = 0
  · rw [if_pos h] at hfit ⊢
    exact decide_eq_false (Nat.not_lt.mpr hfit)
  · rw [if_neg h, foldl_filter_items] at hfit ⊢
    exact addItems_overflow hfit rfl

/-- no `snprintf` call is asked to write past the buffer -/
theorem C17_no_overflow (r : Routine) (v : Nat) : (describe r v).overflow = false :=
  describeWith_overflow (C17_fits r v)

def macroVal (m : Name) : Nat := ((Gen.macros.lookup m).getD 0).toNat

def asFlags (t : List (Nat × Name)) : List (Nat × Name) := t.map (fun e => (2 ^ e.1, e.2))
def specFlags (t : List (Name × Name)) : List (Nat × Name) := t.map (fun e => (macroVal e.1, e.2))

/-- **C17 (names)** each routine's (flag, name) table is the documented one, in order -/
theorem C17_names :
    asFlags Gen.desc_security_type = specFlags Spec.descGenerations ∧
    asFlags Gen.desc_group_ciphers = specFlags Spec.descGroup ∧
    asFlags Gen.desc_pairwise_ciphers = specFlags Spec.descPairwise ∧
    asFlags Gen.desc_auth_key_suites = specFlags Spec.descAkm := by decide +kernel

theorem C17_none : ∀ r ∈ Routine.all, r.none = n!"None" := by decide +kernel

/-- **C17 (once)** within a routine no flag bit and no name occurs twice -/
theorem C17_once : ∀ r ∈ Routine.all,
    strictAsc (isort id (r.table.map (fun e => (e.1 : Int)))) = true ∧
    strictAsc (isort id (r.table.map (fun e => (e.2 : Int)))) = true := by decide +kernel

example : (describe .securityType 0b11000).text = Name.bytes n!"WPA3, WPA2" := by decide +kernel
example : (describe .groupCiphers 0).text = Name.bytes n!"None" := by decide +kernel

end LWV.Props.C17
