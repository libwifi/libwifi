import LWV.Lemmas.Heap
import LWV.Props.C14
import LWV.Props.C03
/-
C14 / C15 for whole objects — the lifecycle and allocation-failure theorems of `LWV.Lemmas.Heap`
(tag lists) extended to the generator objects, to frame classification and to the
classify / parse / release pipeline.

Everything is stated for an ARBITRARY fault schedule `σ : Nat → Bool` and an arbitrary starting
ledger `h` with `Clean h own`, so the statements compose.

One restriction is needed and is made explicit (`applies`): `freeH` releases the detail block for
the action kinds and the tag block for the other kinds, so an edit must be one the API offers for
the kind (tag edits on objects with tagged parameters, detail edits on action objects); this is what
the driver's `editApplies` enforces.
-/
namespace LWV.Props.C14Full
open LWV LWV.Model LWV.Heap LWV.Props.C05

/-- `isAct` and `tagged` are `C07Any.isAct` and `C03Full.kindHasTags` (Lemmas/Frames.lean) under this property's
names, equal by `rfl`: the lemmas stated there apply as they stand -/
def isAct : GKind → Bool
  | .action | .actionNoAck => true
  | _ => false

def tagged : GKind → Bool
  | .action | .actionNoAck | .atim | .rts | .cts => false
  | _ => true

theorem hasTags_eq (o : GObj) : o.hasTags = tagged o.kind := rfl

/-- ownership: the ledger holds exactly the object's tag block, its detail block and `own` -/
structure Own (g : GObjH) (h : H) (own : List Nat) : Prop where
  clean : Clean h (blocks g.tags.ptr ++ (blocks g.detailPtr ++ own))
  tfresh : ∀ id, g.tags.ptr = some id → id ∉ own
  dfresh : ∀ id, g.detailPtr = some id → id ∉ own
  distinct : ∀ i j, g.tags.ptr = some i → g.detailPtr = some j → i ≠ j
  owns : Owns g.tags
  downs : (g.o.detailLen = 0 → g.detailPtr = none) ∧ (g.o.detailLen ≠ 0 → g.detailPtr.isSome)
  sync : g.o.tags = g.tags.t

/-- the part of the invariant that depends on the kind: `free_<kind>` releases the detail block for
the action kinds, the tag block for the kinds with tagged parameters and nothing for ATIM / RTS /
CTS, so an object holds no block its own release would not free -/
structure KindOk (g : GObjH) : Prop where
  noTags : tagged g.o.kind = false → g.tags.ptr = none
  noDetail : isAct g.o.kind = false → g.detailPtr = none

/-- **the generator-object invariant**: the object owns at most its tag block and its detail block
(fresh, distinct, exactly recorded in the ledger next to `own`), each present exactly when the
stored length is non-zero, and only blocks that `free_<kind>` releases -/
structure GInv (g : GObjH) (h : H) (own : List Nat) : Prop where
  own : Own g h own
  kind : KindOk g

theorem Own.tagsHas {g : GObjH} {h : H} {own : List Nat} (w : Own g h own) : Has g.tags.ptr h (blocks g.detailPtr ++ own) :=
  .of_distinct w.clean w.tfresh w.distinct

theorem Own.ledger {g : GObjH} {h : H} {own : List Nat} (w : Own g h own) :
    Ledger g.tags h (blocks g.detailPtr ++ own) :=
  ⟨w.clean, w.tagsHas.fresh, w.owns⟩

theorem own_of_ledger {g : GObjH} {th' : TagsH} {h' : H} {own : List Nat}
    (hd : ∀ id, g.detailPtr = some id → id ∉ own)
    (hdo : (g.o.detailLen = 0 → g.detailPtr = none) ∧ (g.o.detailLen ≠ 0 → g.detailPtr.isSome))
    (l : Ledger th' h' (blocks g.detailPtr ++ own)) :
    Own { g with tags := th', o := { g.o with tags := th'.t } } h' own :=
  ⟨l.clean, l.has.not_mem_own, hd, l.has.distinct, l.owns, hdo, rfl⟩

/-- the detail block seen by itself: the tag block stands in `own` -/
theorem Own.detail {g : GObjH} {h : H} {own : List Nat} (w : Own g h own) : Has g.detailPtr h (blocks g.tags.ptr ++ own) :=
  w.tagsHas.swap w.dfresh

/-- back from that view, with whatever block `q` has taken the detail block's place -/
theorem Own.of_detail {g : GObjH} {h h' : H} {own : List Nat} (w : Own g h own) {q : Ptr}
    (wq : Has q h' (blocks g.tags.ptr ++ own)) (det : Bytes) (nl : Nat)
    (hq : (nl = 0 → q = none) ∧ (nl ≠ 0 → q.isSome)) :
    Own { g with detailPtr := q, o := { g.o with detail := det, detailLen := nl } } h' own :=
  have wt := wq.swap w.tfresh
  ⟨wt.clean, w.tfresh, wq.not_mem_own, wt.distinct, w.owns, hq, w.sync⟩

/-- the detail edits (`libwifi_add_action_detail`, `libwifi_free_action_detail`) on any kind, under any schedule and
whatever they return, keep the ledger exact and touch neither the kind nor the tag list
(`libwifi_add_action_detail` refuses, before allocating, what would not fit the one-octet length, so
the stored length is 0 only when nothing is stored) -/
theorem editH_detail (σ : Nat → Bool) (g : GObjH) (e : GEdit) (h : H) (own : List Nat) (w : Own g h own)
    (he : ∀ op, e ≠ .tag op) :
    Own ((editH σ g e).run h).1.2 ((editH σ g e).run h).2 own ∧
    ((editH σ g e).run h).1.2.o.kind = g.o.kind ∧ ((editH σ g e).run h).1.2.tags = g.tags := by
  cases e with
  | tag op => exact absurd rfl (he op)
  | detail d =>
    rw [editH]
    by_cases h0 : d.length = 0
    · rw [if_pos h0]
      exact ⟨w, rfl, rfl⟩
    by_cases hfit : d.length > 255 - g.o.detailLen
    · rw [if_neg h0, if_pos hfit]
      exact ⟨w, rfl, rfl⟩
    rw [if_neg h0, if_neg hfit]
    have stored : ∀ q : Nat, (g.o.detailLen + d.length = 0 → some q = none) ∧ (g.o.detailLen + d.length ≠ 0 → (some q).isSome) :=
      fun q => ⟨fun hz => absurd (Nat.eq_zero_of_add_eq_zero_left hz) h0, fun _ => rfl⟩
    by_cases hl : g.o.detailLen ≠ 0
    · -- something is stored: realloc; on failure block and object stay
      obtain ⟨q, h1, eq, -, wq⟩ := realloc_has σ g.detailPtr (d.length + g.o.detailLen) h _ w.detail
      rw [if_pos hl, run_bind, eq]
      cases q with
      | none => exact ⟨w.of_detail wq g.o.detail g.o.detailLen w.downs, rfl, rfl⟩
      | some q => exact ⟨w.of_detail wq _ _ (stored q), rfl, rfl⟩
    · have hnone := w.downs.1 (Decidable.not_not.mp hl)
      obtain ⟨q, h1, eq, -, wq⟩ := malloc_has σ d.length h
      have wq := wq _ (has_none.mp (hnone ▸ w.detail))
      rw [if_neg hl, run_bind, eq]
      cases q with
      | none =>
        rw [← hnone] at wq
        exact ⟨w.of_detail wq g.o.detail g.o.detailLen w.downs, rfl, rfl⟩
      | some q => exact ⟨w.of_detail wq _ _ (stored q), rfl, rfl⟩
  | freeDetail =>
    rw [editH]
    by_cases hl : g.o.detailLen ≠ 0
    · rw [if_pos hl, run_bind]
      exact ⟨w.of_detail (has_none.mpr (free_has w.detail)) [] 0 ⟨fun _ => rfl, fun hz => absurd rfl hz⟩, rfl, rfl⟩
    · rw [if_neg hl]
      exact ⟨w, rfl, rfl⟩

/-- EVERY edit on EVERY kind (offered for the kind or not), under every schedule, keeps the ledger exact: no
leak, no double free, whatever the return code -/
theorem editH_own (σ : Nat → Bool) (g : GObjH) (e : GEdit) (h : H) (own : List Nat) (w : Own g h own) :
    Own ((editH σ g e).run h).1.2 ((editH σ g e).run h).2 own := by
  cases e with
  | tag op => exact own_of_ledger w.dfresh w.downs (stepTagH_ledger σ g.tags op h _ w.ledger)
  | detail d => exact (editH_detail σ g (.detail d) h own w fun _ he => by cases he).1
  | freeDetail => exact (editH_detail σ g .freeDetail h own w fun _ he => by cases he).1

/-- the edits the API offers for a kind (the driver's `editApplies`, coarsened): tag edits for
objects with tagged parameters, detail edits for action objects -/
def applies (k : GKind) : GEdit → Bool
  | .tag _ => tagged k
  | .detail _ => isAct k
  | .freeDetail => isAct k

/-- an edit offered for the kind leaves the object with blocks of that kind only: a tag edit does not touch
the detail pointer, a detail edit does not touch the tag list -/
theorem editH_kindOk (σ : Nat → Bool) (g : GObjH) (e : GEdit) (h : H) (own : List Nat) (w : Own g h own) (ko : KindOk g)
    (ha : applies g.o.kind e = true) : KindOk ((editH σ g e).run h).1.2 := by
  have detail : ∀ e, (∀ op, e ≠ .tag op) → isAct g.o.kind = true → KindOk ((editH σ g e).run h).1.2 := fun e he ha => by
    obtain ⟨-, hk, ht⟩ := editH_detail σ g e h own w he
    exact ⟨by rw [hk, ht]; exact ko.noTags, by rw [hk]; exact fun hn => absurd (hn.symm.trans ha) Bool.false_ne_true⟩
  cases e with
  | tag op => exact ⟨fun ht => absurd (ht.symm.trans ha) Bool.false_ne_true, ko.noDetail⟩
  | detail d => exact detail _ (fun _ he => by cases he) ha
  | freeDetail => exact detail _ (fun _ he => by cases he) ha

theorem editH_inv (σ : Nat → Bool) (g : GObjH) (e : GEdit) (h : H) (own : List Nat) (i : GInv g h own)
    (ha : applies g.o.kind e = true) :
    GInv ((editH σ g e).run h).1.2 ((editH σ g e).run h).2 own :=
  ⟨editH_own σ g e h own i.own, editH_kindOk σ g e h own i.own i.kind ha⟩

/-- the two ways the pure generators write "stop at the first non-zero return" -/
theorem seq_add (q1 : Outcome Tags) (q2 : Tags → Outcome Tags) :
    (do let t ← q1; let t ← q2 t; Outcome.ok ((0 : Int), t)) =
    (do let (r, t) ← (do let t ← q1; Outcome.ok ((0 : Int), t)); if r ≠ 0 then .ok (r, t) else (do let t ← q2 t; .ok (0, t))) := by
  cases q1 <;> rfl

theorem initialTagsH_rep (σ : Nat → Bool) (k : GKind) (a : GArgs) (h : H) (own : List Nat) (c : Clean h own) :
    Rep σ own (fun _ => True) ((initialTagsH σ k a).run h) (initialTags k a) := by
  have l0 := ledger_empty c
  cases k
  case beacon | probeResp =>
    exact seq_rep σ (m1 := setTagH σ {} tagSsid (cstr a.ssid)) (f := fun t => setTagH σ t tagDs [UInt8.ofNat a.ch]) h own
      (fun t => setTag t tagDs [UInt8.ofNat a.ch]) (setTagH_rep σ {} _ _ h own l0).weak fun th h' l => (setTagH_rep σ th _ _ h' own l).weak
  case probeReq | assocReq | reassocReq =>
    exact (seq_rep σ h own (fun t => do let t ← quickAddTag t tagDs [UInt8.ofNat a.ch]; .ok (0, t))
      (quickAddTagH_rep σ {} _ _ h own l0).weak fun th h' l => (quickAddTagH_rep σ th _ _ h' own l).weak).of_eq (seq_add _ _)
  case assocResp =>
    -- the pure model drops the setter's return code, which is 0 on the empty list
    refine (seq_rep σ h own (fun t => do let t ← quickAddTag t tagSuppRates Gen.s_LIBWIFI_DEFAULT_SUPP_RATES; .ok (0, t))
      (setTagH_rep σ {} _ _ h own l0).weak fun th h' l => (quickAddTagH_rep σ th _ _ h' own l).weak).of_eq ?_
    rw [initialTags, setTag_empty, quickAddTag_eq]
    rfl
  case reassocResp => exact (setTagH_rep σ {} _ _ h own l0).weak
  case timingAd => exact (quickAddTagH_rep σ {} _ _ h own l0).weak
  all_goals exact ⟨.inr rfl, l0⟩

/-- `createH`'s `o0`: everything of the created object but the tags -/
def baseObj (k : GKind) (a : GArgs) : GObj :=
  match create k a with
  | .ok (_, o) => o
  | _ => { kind := k, fc := [], a1 := [], a2 := [], a3 := [] }

theorem baseObj_kind (k : GKind) (a : GArgs) : (baseObj k a).kind = k ∧ (baseObj k a).detailLen = 0 := by
  unfold baseObj
  by_cases hc : k.isCtrl = false
  · rw [create_mgmt k a hc]
    cases initialTags k a <;> exact ⟨rfl, rfl⟩
  · rcases GKind.isCtrl_cases hc with rfl | rfl <;> exact ⟨rfl, rfl⟩

theorem createH_run (σ : Nat → Bool) (k : GKind) (a : GArgs) (h : H) : (createH σ k a).run h =
    ((((initialTagsH σ k a).run h).1.1,
      { o := { baseObj k a with tags := ((initialTagsH σ k a).run h).1.2.t }, tags := ((initialTagsH σ k a).run h).1.2 }),
     ((initialTagsH σ k a).run h).2) := by rfl

theorem initialTagsH_untagged (σ : Nat → Bool) (k : GKind) (a : GArgs) (h : H) (ht : tagged k = false) :
    (initialTagsH σ k a).run h = ((0, {}), h) := by
  cases k
  case action | actionNoAck | atim | rts | cts => rfl
  all_goals cases ht

/-- whatever allocations fail, and whatever `create_<kind>` returns, the object it leaves
behind satisfies the ownership invariant -/
theorem createH_inv (σ : Nat → Bool) (k : GKind) (a : GArgs) (h : H) (own : List Nat) (c : Clean h own) :
    GInv ((createH σ k a).run h).1.2 ((createH σ k a).run h).2 own := by
  rw [createH_run]
  refine ⟨own_of_ledger (g := { o := baseObj k a }) nofun ⟨fun _ => rfl, fun h0 => absurd (baseObj_kind k a).2 h0⟩
    (initialTagsH_rep σ k a h own c).ledger, fun ht => ?_, fun _ => rfl⟩
  rw [initialTagsH_untagged σ k a h ((baseObj_kind k a).1 ▸ ht)]

theorem freeH_eq (g : GObjH) :
    freeH g = if isAct g.o.kind then free g.detailPtr else if tagged g.o.kind then free g.tags.ptr else pure () := by
  unfold freeH
  generalize g.o.kind = k
  cases k <;> rfl

theorem freeH_run (g : GObjH) (ko : KindOk g) (h : H) :
    (freeH g).run h = (free g.detailPtr).run ((free g.tags.ptr).run h).2 := by
  rw [freeH_eq]
  by_cases ha : isAct g.o.kind = true
  · rw [if_pos ha, ko.noTags (C07Any.isAct_noTags ha)]
    rfl
  · rw [if_neg ha, ko.noDetail (Bool.eq_false_iff.mpr ha)]
    split
    · rfl
    · next ht =>
      rw [ko.noTags (Bool.eq_false_iff.mpr ht)]
      rfl

/-- `libwifi_free_<kind>` from an invariant state: nothing of the object remains and no
invalid or double free happened -/
theorem freeH_clean (g : GObjH) (h : H) (own : List Nat) (i : GInv g h own) :
    Clean ((freeH g).run h).2 own := by
  rw [freeH_run g i.kind]
  exact free_has ⟨free_has i.own.tagsHas, i.own.dfresh⟩

/-- after a failed `create_<kind>` too (non-zero return, any schedule) the documented `free_<kind>` releases
everything -/
theorem createH_releasable (σ : Nat → Bool) (k : GKind) (a : GArgs) (h : H) (own : List Nat) (c : Clean h own) :
    Clean ((freeH ((createH σ k a).run h).1.2).run ((createH σ k a).run h).2).2 own :=
  freeH_clean _ _ own (createH_inv σ k a h own c)

/-- apply the edits in order, ignoring return codes; edits the API does not offer for the object's
kind (`applies`) are skipped, as the driver does -/
def runEdits (σ : Nat → Bool) : List GEdit → GObjH → M GObjH
  | [], g => pure g
  | e :: es, g =>
    if applies g.o.kind e then do
      let (_, g') ← editH σ g e
      runEdits σ es g'
    else runEdits σ es g

theorem runEdits_inv (σ : Nat → Bool) (es : List GEdit) (g : GObjH) (h : H) (own : List Nat) (i : GInv g h own) :
    GInv ((runEdits σ es g).run h).1 ((runEdits σ es g).run h).2 own := by
  induction es generalizing g h with
  | nil => exact i
  | cons e es ih =>
    unfold runEdits
    split
    · next ha => exact ih _ _ (editH_inv σ g e h own i ha)
    · exact ih _ _ i

def lifecycle (σ : Nat → Bool) (k : GKind) (a : GArgs) (edits : List GEdit) : M Unit := do
  let (_, g) ← createH σ k a
  let g' ← runEdits σ edits g
  freeH g'

theorem lifecycle_clean (σ : Nat → Bool) (k : GKind) (a : GArgs) (edits : List GEdit) (h : H) (own : List Nat) (c : Clean h own) :
    Clean ((lifecycle σ k a edits).run h).2 own :=
  freeH_clean _ _ own (runEdits_inv σ edits _ _ own (createH_inv σ k a h own c))

/-- for every kind, all arguments, every list of edits and every fault schedule: create,
then the edits in order (return codes ignored; edits that are not offered for the kind are skipped,
see `applies`), then `free_<kind>`, from the empty ledger:
nothing stays allocated, nothing was released twice or invalidly -/
theorem C14_generator_lifecycle (σ : Nat → Bool) (k : GKind) (a : GArgs) (edits : List GEdit) :
    ((lifecycle σ k a edits).run {}).2.live = [] ∧ ((lifecycle σ k a edits).run {}).2.bad = 0 :=
  clean_nil_live (lifecycle_clean σ k a edits {} [] clean_init)

theorem create_of_initialTags (k : GKind) (a : GArgs) (r : Int) (t : Tags) (hi : initialTags k a = .ok (r, t)) :
    create k a = .ok (r, { baseObj k a with tags := t }) := by
  by_cases hc : k.isCtrl = false
  · unfold baseObj
    rw [create_mgmt k a hc, hi]
    rfl
  · rcases GKind.isCtrl_cases hc with rfl | rfl <;> (cases hi; rfl)

/-- if `create_<kind>` returns 0 — under any schedule — the object it built is exactly the
fault-free (pure model's) object: success is never reported after a lost allocation -/
theorem createH_zero_pure (σ : Nat → Bool) (k : GKind) (a : GArgs) (h : H) (own : List Nat) (c : Clean h own)
    (hz : ((createH σ k a).run h).1.1 = 0) :
    create k a = .ok (0, ((createH σ k a).run h).1.2.o) := by
  rw [createH_run] at hz ⊢
  exact create_of_initialTags k a 0 _ ((initialTagsH_rep σ k a h own c).zero hz)

/-- the schedule that refuses no request (the same function as `C13.noFail`) -/
def nf : Nat → Bool := fun _ => false

theorem createH_nf_pure (k : GKind) (a : GArgs) (h : H) (own : List Nat) (c : Clean h own) :
    create k a = .ok (((createH nf k a).run h).1.1, ((createH nf k a).run h).1.2.o) := by
  rw [createH_run]
  exact create_of_initialTags k a _ _ (initialTagsH_rep nf k a h own c).nf

/-- with the SSID within the one-octet limit the pure `create` returns 0 (`C03_create`), so `create_<kind>` does
when no allocation fails -/
theorem createH_nf_zero (k : GKind) (a : GArgs) (hs : (cstr a.ssid).length ≤ 255) (h : H) (own : List Nat) (c : Clean h own) :
    ((createH nf k a).run h).1.1 = 0 := by
  obtain ⟨o, ho, _⟩ := LWV.Props.C03.C03_create k a hs
  exact (Prod.mk.inj (Outcome.ok.inj (ho.symm.trans (createH_nf_pure k a h own c)))).1.symm

/-- the classified frame owns exactly its radiotap-info block and its body copy -/
structure FrameInv (fh : FrameH) (h : H) (own : List Nat) : Prop where
  clean : Clean h (blocks fh.rtPtr ++ (blocks fh.bodyPtr ++ own))
  rtFresh : ∀ id, fh.rtPtr = some id → id ∉ own
  bodyFresh : ∀ id, fh.bodyPtr = some id → id ∉ own
  distinct : ∀ i j, fh.rtPtr = some i → fh.bodyPtr = some j → i ≠ j

/-- `libwifi_get_wifi_frame` on every path (success, rejection, failed allocation of either
block): what was allocated is recorded in the returned frame, fresh, distinct, nothing else -/
theorem classifyH_inv (σ : Nat → Bool) (rt : Bool) (bs : Bytes) (h : H) (own : List Nat) (c : Clean h own) :
    FrameInv ((classifyH σ rt bs).run h).1.2 ((classifyH σ rt bs).run h).2 own :=
  have ⟨hr, wb⟩ := (classifyH_spec σ rt bs h).2 own c
  have wr := wb.swap hr
  ⟨wr.clean, hr, wb.not_mem_own, wr.distinct⟩

theorem freeFrameH_clean (fh : FrameH) (h : H) (own : List Nat) (i : FrameInv fh h own) :
    Clean ((freeFrameH fh).run h).2 own :=
  free_has ⟨free_has (.of_distinct i.clean i.rtFresh i.distinct), i.bodyFresh⟩

/-- a classified frame is handed out only together with return value 0, and a body copy only
together with a classified frame -/
theorem classifyH_report (σ : Nat → Bool) (rt : Bool) (bs : Bytes) (h : H) :
    (((classifyH σ rt bs).run h).1.2.f.isSome → ((classifyH σ rt bs).run h).1.1 = 0) ∧
    (((classifyH σ rt bs).run h).1.2.bodyPtr.isSome → ((classifyH σ rt bs).run h).1.2.f.isSome) := by
  rcases (classifyH_spec σ rt bs h).1 with ⟨hf, hb, -⟩ | ⟨fr, -, hr, hf⟩
  · rw [hf, hb]
    exact ⟨nofun, nofun⟩
  · rw [hf]
    exact ⟨fun _ => hr, fun _ => rfl⟩

def classifyLifecycle (σ : Nat → Bool) (rt : Bool) (bs : Bytes) : M Unit := do
  let (_, fh) ← classifyH σ rt bs
  freeFrameH fh

theorem classifyLifecycle_clean (σ : Nat → Bool) (rt : Bool) (bs : Bytes) (h : H) (own : List Nat) (c : Clean h own) :
    Clean ((classifyLifecycle σ rt bs).run h).2 own :=
  freeFrameH_clean _ _ own (classifyH_inv σ rt bs h own c)

/-- classification in either mode followed by `libwifi_free_wifi_frame`, on every byte string and under every
schedule, from the empty ledger: nothing stays allocated, nothing was released twice or invalidly -/
theorem C14_classify_lifecycle (σ : Nat → Bool) (rt : Bool) (bs : Bytes) :
    ((classifyLifecycle σ rt bs).run {}).2.live = [] ∧ ((classifyLifecycle σ rt bs).run {}).2.bad = 0 :=
  clean_nil_live (classifyLifecycle_clean σ rt bs {} [] clean_init)

def parseAll (σ : Nat → Bool) : List MKind → Frame → M Unit
  | [], _ => pure ()
  | k :: ks, f => do
    let _ ← parseReleaseH σ k f
    parseAll σ ks f

theorem parseAll_clean (σ : Nat → Bool) (ks : List MKind) (f : Frame) (h : H) (own : List Nat) (c : Clean h own) :
    Clean ((parseAll σ ks f).run h).2 own := by
  induction ks generalizing h with
  | nil => exact c
  | cons k ks ih => exact ih _ (LWV.Props.C14.C14_parse_release σ k f h own c)

def parseClassified (σ : Nat → Bool) (ks : List MKind) (fh : FrameH) : M Unit :=
  match fh.f with
  | some f => parseAll σ ks f
  | none => pure ()

theorem parseClassified_inv (σ : Nat → Bool) (ks : List MKind) (fh : FrameH) (h : H) (own : List Nat) (i : FrameInv fh h own) :
    FrameInv fh ((parseClassified σ ks fh).run h).2 own := by
  refine { i with clean := ?_ }
  unfold parseClassified
  cases fh.f with
  | none => exact i.clean
  | some f => exact parseAll_clean σ ks f h _ i.clean

def pipeline (σ : Nat → Bool) (rt : Bool) (bs : Bytes) (ks : List MKind) : M Unit := do
  let (_, fh) ← classifyH σ rt bs
  parseClassified σ ks fh
  freeFrameH fh

/-- classify, any list of parser calls (each followed by the release of its output) on the
classified frame, then the release of the frame: the ledger is restored -/
theorem pipeline_clean (σ : Nat → Bool) (rt : Bool) (bs : Bytes) (ks : List MKind) (h : H) (own : List Nat) (c : Clean h own) :
    Clean ((pipeline σ rt bs ks).run h).2 own :=
  freeFrameH_clean _ _ own (parseClassified_inv σ ks _ _ own (classifyH_inv σ rt bs h own c))

/-- the pipeline from the empty ledger, for every byte string, mode, parser list and schedule: nothing stays
allocated, nothing was released twice or invalidly -/
theorem C14_pipeline (σ : Nat → Bool) (rt : Bool) (bs : Bytes) (ks : List MKind) :
    ((pipeline σ rt bs ks).run {}).2.live = [] ∧ ((pipeline σ rt bs ks).run {}).2.bad = 0 :=
  clean_nil_live (pipeline_clean σ rt bs ks {} [] clean_init)

def failSecond : Nat → Bool := fun n => n == 1

/-- a beacon whose second request (the tag block of the SSID tag) fails: `create` reports
`-ENOMEM`, nothing is owned, nothing is live -/
example :
    let r := (createH failSecond .beacon { ssid := [65, 66], ch := 6 }).run {}
    r.1.1 = -ENOMEM ∧ r.1.2.tags.ptr = none ∧ r.2.faults = 1 ∧ r.2.reqs = 2 ∧ r.2.live = [] := by decide +kernel

/-- that beacon carried through two tag edits and the release: 6 requests, 1 fault, empty ledger -/
example :
    let r := (lifecycle failSecond .beacon { ssid := [65, 66], ch := 6 } [.tag (.add 7 [1, 2]), .tag (.setSsid [67])]).run {}
    r.2.live = [] ∧ r.2.bad = 0 ∧ r.2.reqs = 6 ∧ r.2.faults = 1 := by decide +kernel

/-- the invariant's hypotheses are satisfiable: the empty ledger is clean -/
example (σ : Nat → Bool) : GInv ((createH σ .assocResp {}).run {}).1.2 ((createH σ .assocResp {}).run {}).2 [] :=
  createH_inv σ _ _ _ _ clean_init

/-- an action object with details, fault-free: created, two detail edits (one realloc), released -/
example :
    let r := (lifecycle nf .action {} [.detail [1], .detail [2, 3], .tag (.add 1 [2])]).run {}
    r.2.live = [] ∧ r.2.bad = 0 ∧ r.2.reqs = 2 := by decide +kernel

/-- 256 detail octets would wrap the one-octet total length to 0 with the block still allocated:
`libwifi_add_action_detail` refuses them with `-EINVAL` before any allocation, the second edit stores one
octet, and the release leaves nothing -/
def wrapHistory : M (Int × Int) := do
  let (_, g) ← createH nf .action {}
  let (r1, g) ← editH nf g (.detail (List.replicate 256 0))
  let (r2, g) ← editH nf g (.detail [1])
  freeH g
  pure (r1, r2)

example :
    (wrapHistory.run {}).1 = (-EINVAL, 1) ∧ (wrapHistory.run {}).2.live = [] ∧ (wrapHistory.run {}).2.bad = 0 ∧
    (wrapHistory.run {}).2.reqs = 1 := by decide +kernel

/-- the history of `wrapHistory` through `lifecycle`, whose runner skips edits not offered for the kind -/
example :
    let r := (lifecycle nf .action {} [.detail (List.replicate 256 0), .detail [1], .freeDetail]).run {}
    r.2.live = [] ∧ r.2.bad = 0 ∧ r.2.reqs = 1 := by decide +kernel

def bcn : Bytes := [0x80, 0] ++ List.replicate 22 0 ++ List.replicate 12 0 ++ [0, 2, 65, 66]
def rtb : Bytes := [0, 0, 8, 0, 0, 0, 0, 0] ++ bcn

/-- classification whose body copy cannot be allocated: `-ENOMEM`, the radiotap block is still
recorded in the returned frame and the documented release frees it -/
example :
    let r := (classifyH failSecond true rtb).run {}
    r.1.1 = -ENOMEM ∧ r.1.2.rtPtr = some 1 ∧ r.1.2.bodyPtr = none ∧ r.2.live = [1] ∧
    ((freeFrameH r.1.2).run r.2).2.live = [] ∧ ((freeFrameH r.1.2).run r.2).2.bad = 0 := by decide +kernel

/-- fault-free classification owns two blocks -/
example :
    let r := (classifyH nf true rtb).run {}
    r.1.1 = 0 ∧ r.1.2.rtPtr = some 1 ∧ r.1.2.bodyPtr = some 2 ∧ r.2.live = [2, 1] := by decide +kernel

/-- pipeline with the third request (the first parser's allocation) failing -/
example :
    let r := (pipeline (fun n => n == 2) true rtb [.beacon, .probeResp, .beacon]).run {}
    r.2.live = [] ∧ r.2.bad = 0 ∧ r.2.reqs = 4 ∧ r.2.faults = 1 := by decide +kernel

end LWV.Props.C14Full
