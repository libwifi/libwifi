import LWV.Model.Tables
import LWV.Spec.Ieee
import LWV.Lemmas.Assoc
/-
C19 — Published protocol numbers and tag names follow the IEEE assignments.
Every `Gen.*` constant is regenerated from the working tree.
-/
namespace LWV.Props.C19
open LWV

/-- the ten kinds of published numbers: (kind, published enumerators, IEEE table) -/
def kinds : List (String × List (Name × Int) × List (Name × Int)) := [
  ("element ids", Gen.enum_libwifi_tag_numbers, Spec.ieeeTag),
  ("reason codes", Gen.enum_libwifi_reason_codes, Spec.ieeeReason),
  ("status codes", Gen.enum_libwifi_status_codes, Spec.ieeeStatus),
  ("action categories", Gen.enum_libwifi_actions, Spec.ieeeAction),
  ("frame types", Gen.enum_libwifi_frame_type, Spec.ieeeFrameType),
  ("management subtypes", Gen.enum_libwifi_mgmt_subtypes, Spec.ieeeMgmtSubtype),
  ("control subtypes", Gen.enum_libwifi_control_subtypes, Spec.ieeeCtrlSubtype),
  ("control extension subtypes", Gen.enum_libwifi_control_extension_subtypes, Spec.ieeeCtrlExtSubtype),
  ("data subtypes", Gen.enum_libwifi_data_subtypes, Spec.ieeeDataSubtype),
  ("extension subtypes", Gen.enum_libwifi_extension_subtypes, Spec.ieeeExtSubtype)]

/-- Every IEEE assignment the Spec vouches for is published under that name with exactly that
value (as a sub-sequence of the header's enumerator list, which the kernel decides in one pass).
Enumerator names are unique identifiers in C, so this fixes the value of every vouched name. -/
theorem C19_values : ∀ k ∈ kinds, k.2.2.Sublist k.2.1 := by decide +kernel

theorem tags_reserved_nodup : (Gen.enum_libwifi_tag_numbers.map (·.2) ++ Spec.ieeeReservedTag).Nodup :=
  nodup_append_of_merge_strictAsc (by decide +kernel)

/-- no name is published for an element ID the standard reserves (a freshly added name with a wrong number lands on
a reserved ID or on a number that is already taken - the latter is `C19_distinct`) -/
theorem C19_no_reserved_tag : ∀ p ∈ Gen.enum_libwifi_tag_numbers, p.2 ∉ Spec.ieeeReservedTag := fun p hp hr =>
  (List.nodup_append.mp tags_reserved_nodup).2.2 p.2 (List.mem_map_of_mem hp) p.2 hr rfl

/-- the reserved list is the 83-number list of the standard's table (non-vacuity of `C19_no_reserved_tag` and `C19_reserved_unknown`) -/
theorem C19_reserved_count : Spec.ieeeReservedTag.length = 83 ∧ (149 : Int) ∈ Spec.ieeeReservedTag ∧ (148 : Int) ∉ Spec.ieeeReservedTag := by decide +kernel

theorem C19_values_pointwise (k) (hk : k ∈ kinds) (name : Name) (w : Int)
    (hi : (name, w) ∈ k.2.2) : (name, w) ∈ k.2.1 :=
  (C19_values k hk).subset hi

/-- no two names of one kind share a number -/
theorem C19_distinct : ∀ k ∈ kinds, (k.2.1.map (·.2)).Nodup :=
  have h : ∀ k ∈ kinds.tail, strictAsc (isort id (k.2.1.map (·.2))) = true := by decide +kernel
  List.forall_mem_cons.mpr ⟨(List.nodup_append.mp tags_reserved_nodup).1, fun k hk => nodup_of_sorted_strictAsc (h k hk)⟩

/-- hence a number determines its name, and a vouched number cannot be carried by another name -/
theorem C19_unique_name (k) (hk : k ∈ kinds) (n m : Name) (v : Int)
    (h1 : (n, v) ∈ k.2.1) (h2 : (m, v) ∈ k.2.1) : n = m :=
  congrArg Prod.fst (eq_of_nodup_map (C19_distinct k hk) h1 h2 rfl)

/-- the switch's (label, string) pairs are, up to order, exactly the enumerators' (value, name) -/
theorem tagCases_perm : Gen.tagNameCases.Perm (Gen.enum_libwifi_tag_numbers.map fun e => (e.2, e.1)) :=
  have h : isort (·.1) Gen.tagNameCases = (isort (·.2) Gen.enum_libwifi_tag_numbers).map fun e => (e.2, e.1) := by
    decide +kernel
  ((isort_perm _ _).symm.trans (.of_eq h)).trans ((isort_perm _ _).map _)

theorem mem_tagCases (n : Int) (s : Name) : (n, s) ∈ Gen.tagNameCases ↔ (s, n) ∈ Gen.enum_libwifi_tag_numbers :=
  tagCases_perm.mem_iff.trans
    ⟨fun h => by obtain ⟨e, he, h⟩ := List.mem_map.mp h; cases h; exact he, fun h => List.mem_map.mpr ⟨_, h, rfl⟩⟩

theorem tagCases_keys_nodup : (Gen.tagNameCases.map (·.1)).Nodup := by
  rw [(tagCases_perm.map _).nodup_iff, List.map_map]
  exact C19_distinct _ List.mem_cons_self

theorem tagName_default : Gen.tagNameDefault = n!"Unknown Tag" := by decide

/-- For **every** integer the lookup returns the published identifier of the tag with that
number, or the fixed unknown-tag string. -/
theorem C19_tag_name (n : Int) :
    Model.tagName n =
      match Gen.enum_libwifi_tag_numbers.find? (fun e => e.2 == n) with
      | some e => e.1
      | none => n!"Unknown Tag" := by
  unfold Model.tagName
  rw [lookup_converse tagCases_keys_nodup mem_tagCases n, tagName_default]
  cases Gen.enum_libwifi_tag_numbers.find? (fun e => e.2 == n) <;> rfl

/-- hence the name lookup answers every reserved ID with the unknown-tag string -/
theorem C19_reserved_unknown : ∀ n ∈ Spec.ieeeReservedTag, Model.tagName n = Gen.tagNameDefault := by
  intro n hn
  rw [C19_tag_name, tagName_default]
  cases h : Gen.enum_libwifi_tag_numbers.find? (fun e => e.2 == n) with
  | none => rfl
  | some e =>
    -- a reserved number has no enumerator
    have he : e.2 = n := by simpa using List.find?_some h
    exact absurd (he ▸ hn) (C19_no_reserved_tag e (List.mem_of_find?_eq_some h))

/-- so the lookup has finitely many answers: the unknown-tag string or a published identifier -/
theorem C19_tag_name_total (n : Int) :
    Model.tagName n = n!"Unknown Tag" ∨ Model.tagName n ∈ Gen.enum_libwifi_tag_numbers.map (·.1) := by
  rw [C19_tag_name]
  cases h : Gen.enum_libwifi_tag_numbers.find? (fun e => e.2 == n) with
  | none => exact Or.inl rfl
  | some e => exact Or.inr (List.mem_map.mpr ⟨e, List.mem_of_find?_eq_some h, rfl⟩)

example : Model.tagName 48 = n!"TAG_RSN" := by decide +kernel
example : Model.tagName (-7) = n!"Unknown Tag" := by decide +kernel
example : Model.tagName 256 = n!"Unknown Tag" := by decide +kernel
example : Spec.ieeeTag.lookup n!"TAG_RSN" = some 48 := by decide +kernel
example : Name.toString n!"TAG_RSN" = "TAG_RSN" := by decide +kernel

end LWV.Props.C19
