import LWV.Model.Eapol
import LWV.Spec.Eapol
import LWV.Lemmas.Outcome
/-
C12 — EAPOL-Key frames are recognised, classified and extracted exactly.

The routines of `Model.Eapol` against `Spec.Eapol`, for every `Coherent` frame (`len` = header + body,
as the classifier hands them out); the two routines that start with the handshake test go on
exactly on recognised frames (`checkHandshake_bind`).
-/
namespace LWV.Props.C12
open LWV LWV.Model

/-- **C12 (tables)** the constants the EAPOL routines take from the headers -/
theorem C12_tables :
    llcLen = 8 ∧ eapolMin = 107 ∧ Gen.s_XEROX_OUI = [0, 0, 0] ∧ Gen.m_LLC_TYPE_AUTH = 0x888E ∧
    Gen.m_EAPOL_KEY_INFO_M1 = 0x008A ∧ Gen.m_EAPOL_KEY_INFO_M2 = 0x010A ∧ Gen.m_EAPOL_KEY_INFO_M3 = 0x13CA ∧ Gen.m_EAPOL_KEY_INFO_M4 = 0x030A ∧
    Gen.enum_WPA_HANDSHAKE_PART = [(n!"HANDSHAKE_M1", 1), (n!"HANDSHAKE_M2", 2), (n!"HANDSHAKE_M3", 4), (n!"HANDSHAKE_M4", 8), (n!"HANDSHAKE_INVALID", 16)] ∧
    Gen.off_libwifi_wpa_auth_data_key_info = 5 ∧ Gen.off_libwifi_wpa_key_info_key_length = 2 ∧ Gen.off_libwifi_wpa_key_info_replay_counter = 4 ∧
    Gen.off_libwifi_wpa_key_info_nonce = 12 ∧ Gen.off_libwifi_wpa_key_info_iv = 44 ∧ Gen.off_libwifi_wpa_key_info_rsc = 60 ∧
    Gen.off_libwifi_wpa_key_info_id = 68 ∧ Gen.off_libwifi_wpa_key_info_mic = 76 ∧ Gen.off_libwifi_wpa_key_info_key_data_length = 92 ∧
    Gen.off_libwifi_wpa_key_info_key_data = 94 := by decide +kernel

theorem beVal_zero (bs : Bytes) (off : Nat) : Spec.beVal bs off 0 = 0 := rfl

theorem beVal_succ (bs : Bytes) (off n : Nat) (h : off + n < bs.length) :
    Spec.beVal bs off (n + 1) = Spec.beVal bs off n * 256 + (bs.getD (off + n) 0).toNat := by
  unfold Spec.beVal
  rw [List.take_add_one, List.getElem?_drop, List.getD_eq_getElem?_getD, List.getElem?_eq_getElem h, List.foldl_append]
  rfl

theorem beVal_drop (bs : Bytes) (k off n : Nat) : Spec.beVal (bs.drop k) off n = Spec.beVal bs (k + off) n := by
  unfold Spec.beVal; rw [List.drop_drop]

theorem beVal_one {bs : Bytes} {k : Nat} (hk : k ≤ bs.length) (off : Nat) (h : off < k) :
    Spec.beVal bs off 1 = (bs.getD off 0).toNat := by
  rw [beVal_succ bs off 0 (Nat.lt_of_lt_of_le h hk), beVal_zero, Nat.zero_mul, Nat.zero_add, Nat.add_zero]

theorem beVal_two {bs : Bytes} {k : Nat} (hk : k ≤ bs.length) (off : Nat) (h : off + 1 < k) :
    Spec.beVal bs off 2 = be16 (bs.getD off 0) (bs.getD (off + 1) 0) := by
  rw [beVal_succ bs off 1 (Nat.lt_of_lt_of_le h hk), beVal_one hk off (Nat.lt_of_succ_lt h), Nat.mul_comm]; rfl

/-- a frame as the classifier produces it: `len` counts header and body -/
def Coherent (f : Frame) : Prop := f.len = f.headerLen + f.body.length

theorem Coherent.bodyLen {f : Frame} (hc : Coherent f) : f.len - f.headerLen = f.body.length := by
  rw [hc, Nat.add_sub_cancel_left]

theorem isHandshake_length {d : Bool} {body : Bytes} (h : Spec.isHandshake d body = true) : 107 ≤ body.length := by
  unfold Spec.isHandshake at h
  simp only [Bool.and_eq_true, decide_eq_true_eq] at h
  exact h.1.1.2

/-- **C12 (recognise)** a frame is reported as a WPA handshake exactly when it is a data frame
whose body starts with an LLC/SNAP header carrying the zero OUI and EtherType 0x888E and holds a
complete EAPOL-Key descriptor (107 octets); otherwise a negative code is returned -/
theorem C12_recognise (f : Frame) (hc : Coherent f) :
    checkHandshake f = .ok (if Spec.isHandshake (frameType f == 2) f.body then 1 else -EINVAL) := by
  obtain ⟨h8, h107, hx, hty, _⟩ := C12_tables
  unfold checkHandshake Spec.isHandshake Spec.eapolMinBody
  rw [h8, h107, hx, hty, hc]
  simp only [Nat.add_lt_add_iff_left]
  by_cases hl : 107 ≤ f.body.length
  · -- long enough: every read succeeds, the guards are the spec's conjuncts
    have n8 : ¬ f.body.length < 8 := Nat.not_lt.mpr (Nat.le_trans (by decide) hl)
    simp only [n8, Nat.not_lt.mpr hl, if_false, rd_of_le hl, rdSlice_of_le hl, Nat.reduceLT, Nat.reduceAdd, Nat.reduceLeDiff,
      Outcome.bind_ok, hl, decide_true, Bool.and_true, beVal_two hl 6 (by decide),
      ne_eq, ite_not, Bool.and_eq_true, beq_iff_eq, ite_and, apply_ite Outcome.ok]
  · -- too short: every path returns the error
    simp only [hl, decide_false, Bool.and_false, Bool.false_and, Bool.false_eq_true, if_false]
    by_cases hs : f.body.length < 8
    · simp only [hs, if_true, ite_self]
    · have h8' : 8 ≤ f.body.length := Nat.not_lt.mp hs
      simp only [hs, rd_of_le h8', rdSlice_of_le h8', Nat.reduceLT, Nat.reduceAdd, Nat.reduceLeDiff, Outcome.bind_ok,
        Nat.not_le.mp hl, if_true, ite_self]

theorem checkHandshake_bind {β} (f : Frame) (hc : Coherent f) (x y : Outcome β) :
    (checkHandshake f >>= fun r => if r < 0 then x else y) = if Spec.isHandshake (frameType f == 2) f.body then y else x := by
  rw [C12_recognise f hc, Outcome.bind_ok]
  split
  · exact if_neg (by decide)
  · exact if_pos (by decide)

/-- **C12 (message)** message number 1..4 exactly for key-information 0x008A, 0x010A, 0x13CA and
0x030A (as HANDSHAKE_M1..M4 = 1, 2, 4, 8), invalid (16) otherwise and for frames too short to hold
a descriptor -/
theorem C12_message (f : Frame) (hc : Coherent f) :
    checkMessage f = .ok (if f.body.length < 107 then 16 else
      match Spec.messageOf (Spec.beVal f.body 13 2) with
      | some 1 => 1 | some 2 => 2 | some 3 => 4 | some 4 => 8 | _ => 16) := by
  obtain ⟨h8, h107, _, _, m1, m2, m3, m4, _⟩ := C12_tables
  unfold checkMessage
  rw [h8, h107, hc]
  by_cases hl : f.body.length < 107
  · rw [if_pos (Nat.add_lt_add_left hl _), if_pos hl]
  · have hlen : 107 ≤ f.body.length := Nat.not_lt.mp hl
    rw [if_neg fun h => hl (Nat.lt_of_add_lt_add_left h), if_neg hl, rd_of_le hlen (by decide), Outcome.bind_ok,
      rd_of_le hlen (by decide), Outcome.bind_ok, beVal_two hlen 13 (by decide)]
    unfold msgOf Spec.messageOf
    -- the numbering HANDSHAKE_M1..M4 moves inside each of the Spec's four tests; what is left is the model's chain
    have push := @apply_ite _ _ (fun o : Option Nat => match o with | some 1 => 1 | some 2 => 2 | some 3 => 4 | some 4 => 8 | _ => 16)
    rw [m1, m2, m3, m4, push, push, push, push]
    rfl

theorem beNat_eq_beVal (bs : Bytes) (off n : Nat) : beNat ((bs.drop off).take n) = Spec.beVal bs off n := rfl

/-- **C12 (extract)** for every recognised frame the extracted fields are the big-endian fields
at their standard offsets and the key data are exactly the octets that follow the descriptor,
limited to the declared length, the library's cap and the octets actually present -/
theorem C12_extract (f : Frame) (hc : Coherent f) (hr : Spec.isHandshake (frameType f == 2) f.body = true) :
    ∃ d, getWpaData f = .ok d ∧
      let k := Spec.keyFrame f.body
      d.version = k.version ∧ d.type = k.type ∧ d.length = k.length ∧ d.descriptor = k.descriptor ∧ d.information = k.information ∧
      d.keyLength = k.keyLength ∧ d.replay = k.replay ∧ d.nonce = k.nonce ∧ d.iv = k.iv ∧ d.rsc = k.rsc ∧ d.id = k.id ∧ d.mic = k.mic ∧
      d.keyData = k.keyData ∧ d.keyDataLength = d.keyData.length := by
  obtain ⟨h8, h107, _⟩ := C12_tables
  have hlen : 107 ≤ f.body.length := isHandshake_length hr
  unfold getWpaData
  rw [checkHandshake_bind f hc, if_pos hr, h8, h107, Coherent.bodyLen hc]
  simp only [Outcome.bind_ok, Nat.reduceAdd, Nat.reduceLT, Nat.reduceLeDiff, rd_of_le hlen, rdSlice_of_le hlen]
  rw [rdSlice_clamped hlen]
  refine ⟨_, rfl, ?_⟩
  unfold Spec.keyFrame
  dsimp only
  have one : ∀ off, 8 + off < 107 → (f.body.getD (8 + off) 0).toNat = Spec.beVal (f.body.drop 8) off 1 :=
    fun off h => by rw [beVal_drop, beVal_one hlen _ h]
  have val : ∀ off n, beNat ((f.body.drop (8 + off)).take n) = Spec.beVal (f.body.drop 8) off n :=
    fun off n => (beVal_drop f.body 8 off n).symm
  have sl : ∀ off n, (f.body.drop (8 + off)).take n = ((f.body.drop 8).drop off).take n :=
    fun off n => by rw [List.drop_drop]
  refine ⟨one 0 (by decide), one 1 (by decide), val 2 2, one 4 (by decide), val 5 2, val 7 2, val 9 8, sl 17 32, sl 49 16, sl 65 8,
    sl 73 8, sl 81 16, ?_, ?_⟩
  · exact congrArg (fun n => (f.body.drop 107).take (min n 1024)) (val 97 2)
  · exact (List.length_take.trans (congrArg _ List.length_drop)).symm

/-- `libwifi_get_wpa_key_data_length`: the declared key-data length of a recognised frame, a negative code otherwise -/
theorem keyDataLength_eq (f : Frame) (hc : Coherent f) :
    keyDataLength f = .ok (if Spec.isHandshake (frameType f == 2) f.body then (Spec.beVal f.body 105 2 : Int) else -EINVAL) := by
  unfold keyDataLength
  rw [checkHandshake_bind f hc]
  by_cases hh : Spec.isHandshake (frameType f == 2) f.body = true
  · have hlen := isHandshake_length hh
    rw [if_pos hh, if_pos hh, C12_tables.1, rd_of_le hlen (by decide), Outcome.bind_ok,
      rd_of_le hlen (by decide), Outcome.bind_ok, beVal_two hlen 105 (by decide)]
  · rw [if_neg hh, if_neg hh]

theorem getWpaData_refuse (f : Frame) (hc : Coherent f) (hh : ¬ Spec.isHandshake (frameType f == 2) f.body = true) :
    getWpaData f = .err (-EINVAL) := by
  unfold getWpaData
  rw [checkHandshake_bind f hc, if_neg hh]

/-- the hypothesis of `C12_extract` can be met: LLC/SNAP `aa aa 03`, zero OUI, EtherType 0x888E and 99 more
octets (107 in all) are a handshake body -/
example : Spec.isHandshake true ([0xaa, 0xaa, 0x03, 0, 0, 0, 0x88, 0x8e] ++ List.replicate 99 0) = true := by decide +kernel

end LWV.Props.C12
