import LWV.Gen.Objects
import LWV.Lemmas.Heap
import LWV.Props.C16
/-
C13 — parsing is a pure function of the input bytes.

In the model the parsers are Lean functions of `(mode, bytes)`; what a theorem can add to that is
the part of "nothing else matters" that is visible in the model:

* there is no file-scope writable object through which an earlier call could reach a later one
  (regenerated from the object files of the working tree);
* started from *any* heap state an earlier history of calls may have left behind, and with no allocation
  failing, the allocation-aware skeletons report what the pure models report: the management parsers the
  same outcome; classification return value 0 and the pure classifier's frame where that accepts, and no
  frame where it refuses with an error code (about the value returned then nothing is stated);
* a checked read that succeeds is unaffected by whatever follows the stated length.

Dependence on output pre-fill, uninitialised heap bytes and compiler flags cannot be exhibited by
this model (it has no uninitialised memory); those clauses are decided by the two-environment /
three-build correspondence of checks/c13.py against these same functions.
-/
namespace LWV.Props.C13
open LWV LWV.Model LWV.Heap

/-- no `.data`/`.bss`/TLS/COMMON storage anywhere in the library -/
theorem C13_no_hidden_state : ∀ f ∈ Gen.objectFiles, f.writable = [] ∧ f.tls = [] ∧ ∀ o ∈ f.objects, o.cls ≤ 1 :=
  fun f hf => ⟨(C16.C16_sections f hf).1, (C16.C16_sections f hf).2, C16.C16_no_writable f hf⟩

def noFail : Nat → Bool := fun _ => false

/-- a checked read inside the stated length does not see what follows the buffer -/
theorem C13_rd_trailing (w : String) (bs extra : Bytes) (i : Nat) (v : UInt8) (h : rd w bs i = .ok v) :
    rd w (bs ++ extra) i = .ok v := by
  unfold rd at h ⊢
  split at h
  · next b hb => rw [List.getElem?_append_left (List.getElem?_eq_some_iff.mp hb).1, hb]; exact h
  · cases h

theorem C13_slice_trailing (w : String) (bs extra : Bytes) (off n : Nat) (s : Bytes) (h : rdSlice w bs off n = .ok s) :
    rdSlice w (bs ++ extra) off n = .ok s := by
  unfold rdSlice at h ⊢
  split at h
  · next hi =>
    rw [if_pos (by rw [List.length_append]; exact Nat.le_add_right_of_le hi), ← h,
      List.drop_append_of_le_length (Nat.le_trans (Nat.le_add_right off n) hi),
      List.take_append_of_le_length (by rw [List.length_drop]; exact Nat.le_sub_of_add_le' hi)]
  · cases h

/-- **classification does not depend on the heap an earlier history left behind**: from every
ledger state `h`, without allocation failure, `libwifi_get_wifi_frame` returns 0 and the frame of
the pure classifier, or reports no frame when the pure classifier refuses -/
theorem C13_classify_history (rt : Bool) (bs : Bytes) (h : H) :
    (∀ fr, classify rt bs = .ok fr → ((classifyH noFail rt bs).run h).1.1 = 0 ∧ ((classifyH noFail rt bs).run h).1.2.f = some fr) ∧
    (∀ c, classify rt bs = .err c → ((classifyH noFail rt bs).run h).1.2.f = none) := by
  rcases (classifyH_spec noFail rt bs h).1 with ⟨hf, -, ⟨-, _, hk⟩ | hno⟩ | ⟨fr, hfr, hr, hf⟩
  · cases hk
  · exact ⟨fun fr hc => absurd hc (hno fr), fun _ _ => hf⟩
  · rw [hfr]
    exact ⟨fun _ hc => by cases hc; exact ⟨hr, hf⟩, nofun⟩

/-- whatever heap an earlier history left, and with no allocation failing, a management parser's report is
the pure model's report -/
theorem C13_parse_history (k : MKind) (f : Frame) (h : H) :
    ((parseReleaseH noFail k f).run h).1 = parseMgmt k f := by
  rw [parseReleaseH_eq]
  exact scratch_nf

end LWV.Props.C13
