import LWV.Model.CExpr
import LWV.Gen.Cap
import LWV.Gen.Enums
import LWV.Spec.Ieee
import LWV.Lemmas.Assoc
/-
C18 — capability tests select the IEEE-assigned capability bit, however the argument
expression is written.

`Gen.capTokens` is the real preprocessor's expansion of
`libwifi_check_capabilities(LWV_X, LWV_CAP)` (gcc -E on the working tree); `Gen.capTree` is the
parse tree the translator proposes for it.  The kernel checks that the tree renders to exactly
those tokens and is precedence-correct, so it *is* the C parse of the expansion.
-/
namespace LWV.Props.C18
open LWV LWV.CExpr

def X : Name := n!"LWV_X"
def CAP : Name := n!"LWV_CAP"

/-- `x` is not the spelling of any non-variable token of `t` -/
def clean (x : Name) : CExpr → Bool
  | .var _ => true
  | .num _ s => decide (s ≠ x)
  | .paren t => decide (n!"(" ≠ x) && decide (n!")" ≠ x) && clean x t
  | .un op t => decide (op ≠ x) && clean x t
  | .bin op a b => decide (op.tok ≠ x) && clean x a && clean x b
  | .cond c a b => decide (n!"?" ≠ x) && decide (n!":" ≠ x) && clean x c && clean x a && clean x b

theorem substTokens_nil (x : Name) (arg : List Name) : substTokens x arg [] = [] := rfl

theorem substTokens_append (x : Name) (arg a b : List Name) :
    substTokens x arg (a ++ b) = substTokens x arg a ++ substTokens x arg b := by
  simp [substTokens, List.flatMap_append]

theorem substTokens_cons_ne {x t : Name} (h : t ≠ x) (arg ts : List Name) :
    substTokens x arg (t :: ts) = t :: substTokens x arg ts := by
  simp [substTokens, h]

/-- token-level substitution (the preprocessor) commutes with tree-level substitution -/
theorem render_subst (x : Name) (e t : CExpr) (hc : clean x t = true) :
    render (subst x e t) = substTokens x (render e) (render t) := by
  induction t with
  | var y => exact (apply_ite render ..).trans (List.flatMap_singleton ..).symm
  | num n s =>
    simp only [clean, decide_eq_true_eq] at hc
    simp only [subst, render, substTokens_cons_ne hc, substTokens_nil]
  | paren t ih =>
    simp only [clean, Bool.and_eq_true, decide_eq_true_eq] at hc
    simp only [subst, render, substTokens_append, substTokens_cons_ne hc.1.1, substTokens_cons_ne hc.1.2, substTokens_nil,
      ih hc.2]
  | un op t ih =>
    simp only [clean, Bool.and_eq_true, decide_eq_true_eq] at hc
    simp only [subst, render, substTokens_cons_ne hc.1, ih hc.2]
  | bin op a b iha ihb =>
    simp only [clean, Bool.and_eq_true, decide_eq_true_eq] at hc
    simp only [subst, render, substTokens_append, substTokens_cons_ne hc.1.1, substTokens_nil, iha hc.1.2, ihb hc.2]
  | cond c a b ihc iha ihb =>
    simp only [clean, Bool.and_eq_true, decide_eq_true_eq] at hc
    simp only [subst, render, substTokens_append, substTokens_cons_ne hc.1.1.1.1, substTokens_cons_ne hc.1.1.1.2,
      substTokens_nil, ihc hc.1.1.2, iha hc.1.2, ihb hc.2]

theorem clean_subst (x y : Name) (e t : CExpr) (he : clean x e = true) : clean x (subst y e t) = clean x t := by
  induction t with
  | var z => by_cases h : z = y <;> simp [subst, h, clean, he]
  | num n s => rfl
  | paren t ih => simp only [subst, clean, ih]
  | un op t ih => simp only [subst, clean, ih]
  | bin op a b iha ihb => simp only [subst, clean, iha, ihb]
  | cond c a b ihc iha ihb => simp only [subst, clean, ihc, iha, ihb]

/-- a guarded parameter never sits at the top of a term, so substitution keeps every level -/
theorem level_subst (x : Name) (e t : CExpr) (hg : guarded x t = true) :
    level (subst x e t) = level t := by
  cases t with
  | var y =>
    unfold subst
    rw [if_neg (of_decide_eq_true hg)]
  | _ => rfl

/-- **hygiene**: if every parameter occurrence is parenthesised, substituting ANY
precedence-correct argument expression leaves precedence-correctness as it was — the argument can
never re-associate with the macro's own operators -/
theorem wellPrec_subst (x : Name) (e t : CExpr) (he : wellPrec e = true) (hg : guarded x t = true) :
    wellPrec (subst x e t) = wellPrec t := by
  induction t with
  | var y =>
    unfold subst
    rw [if_neg (of_decide_eq_true hg)]
  | num n s => rfl
  | paren t ih =>
    cases t with
    | var y => by_cases h : y = x <;> simp [subst, h, wellPrec, he]
    | _ => exact ih hg
  | un op t ih => simp only [subst, wellPrec, level_subst x e t hg, ih hg]
  | bin op a b iha ihb =>
    simp only [guarded, Bool.and_eq_true] at hg
    simp only [subst, wellPrec, level_subst x e a hg.1, level_subst x e b hg.2, iha hg.1, ihb hg.2]
  | cond c a b ihc iha ihb =>
    simp only [guarded, Bool.and_eq_true] at hg
    simp only [subst, wellPrec, level_subst x e c hg.1.1, level_subst x e b hg.2, ihc hg.1.1, iha hg.1.2, ihb hg.2]

theorem guarded_paren {x : Name} {e : CExpr} (h : guarded x e = true) : guarded x (paren e) = true := by
  cases e with
  | var _ => rfl
  | _ => exact h

theorem guarded_subst (x y : Name) (e t : CExpr)
    (he : guarded x e = true) (hg : guarded x t = true) : guarded x (subst y e t) = true := by
  induction t with
  | var z => rw [subst]; split <;> assumption
  | num n s => rfl
  | paren t ih =>
    cases t with
    | var z =>
      rw [subst, subst]
      split
      · exact guarded_paren he
      · rfl
    | _ => exact guarded_paren (ih hg)
  | un op t ih => exact ih hg
  | bin op a b iha ihb =>
    simp only [guarded, Bool.and_eq_true] at hg
    simp only [subst, guarded, iha hg.1, ihb hg.2, Bool.and_self]
  | cond c a b ihc iha ihb =>
    simp only [guarded, Bool.and_eq_true] at hg
    simp only [subst, guarded, ihc hg.1.1, iha hg.1.2, ihb hg.2, Bool.and_self]

theorem eval_strip (env : Name → Nat) (t : CExpr) : eval env (strip t) = eval env t := by
  induction t with
  | var y => rfl
  | num n s => rfl
  | paren t ih => exact ih
  | un op t ih =>
    unfold strip eval
    rw [ih]
  | bin op a b iha ihb =>
    unfold strip eval
    rw [iha, ihb]
  | cond c a b ihc iha ihb =>
    unfold strip eval
    rw [ihc, iha, ihb]

theorem strip_subst (x : Name) (e t : CExpr) : strip (subst x e t) = subst x (strip e) (strip t) := by
  induction t with
  | var y => exact apply_ite strip ..
  | num n s => rfl
  | paren t ih => exact ih
  | un op t ih => simp only [subst, strip, ih]
  | bin op a b iha ihb => simp only [subst, strip, iha, ihb]
  | cond c a b ihc iha ihb => simp only [subst, strip, ihc, iha, ihb]

/-- `x` plays no part in `t` -/
structure Fresh (x : Name) (t : CExpr) : Prop where
  clean : clean x t = true
  guarded : guarded x t = true
  subst : ∀ c, subst x c t = t

theorem fresh_of_notin {x : Name} {t : CExpr} (h : x ∉ render t) : Fresh x t := by
  induction t with
  | var y =>
    have hy : y ≠ x := fun e => h (List.mem_singleton.mpr e.symm)
    exact ⟨rfl, decide_eq_true hy, fun _ => if_neg hy⟩
  | num n s => exact ⟨decide_eq_true fun e => h (List.mem_singleton.mpr e.symm), rfl, fun _ => rfl⟩
  | paren t ih =>
    simp only [render, List.mem_cons, List.mem_append, not_or, List.not_mem_nil, or_false] at h
    obtain ⟨ct, gt, st⟩ := ih h.2.1
    exact ⟨by simp [clean, Ne.symm h.1, Ne.symm h.2.2, ct], guarded_paren gt, fun c => by simp [subst, st c]⟩
  | un op t ih =>
    simp only [render, List.mem_cons, not_or] at h
    obtain ⟨ct, gt, st⟩ := ih h.2
    exact ⟨by simp [clean, Ne.symm h.1, ct], gt, fun c => by simp [subst, st c]⟩
  | bin op a b iha ihb =>
    simp only [render, List.mem_append, List.mem_cons, not_or, List.not_mem_nil, or_false] at h
    obtain ⟨ca, ga, sa⟩ := iha h.1.1
    obtain ⟨cb, gb, sb⟩ := ihb h.2
    exact ⟨by simp [clean, Ne.symm h.1.2, ca, cb], by simp [guarded, ga, gb], fun c => by simp [subst, sa c, sb c]⟩
  | cond c a b ihc iha ihb =>
    simp only [render, List.mem_append, List.mem_cons, not_or, List.not_mem_nil, or_false] at h
    obtain ⟨cc, gc, sc⟩ := ihc h.1.1.1.1
    obtain ⟨ca, ga, sa⟩ := iha h.1.1.2
    obtain ⟨cb, gb, sb⟩ := ihb h.2
    exact ⟨by simp [clean, Ne.symm h.1.1.1.2, Ne.symm h.1.2, cc, ca, cb], by simp [guarded, gc, ga, gb],
      fun d => by simp [subst, sc d, sa d, sb d]⟩

/-- the proposed tree renders to the preprocessor's tokens, is precedence-correct, guards both
parameters with parentheses, and modulo parentheses is `X & (1 << CAP)` -/
theorem C18_macro : ∃ T, Gen.capTree = some T ∧ render T = Gen.capTokens ∧ wellPrec T = true ∧
    guarded X T = true ∧ guarded CAP T = true ∧ clean X T = true ∧ clean CAP T = true ∧
    strip T = bin .band (var X) (bin .shl (num 1 n!"1") (var CAP)) :=
  ⟨_, rfl, by decide +kernel⟩

/-- the tree of the expansion for argument expressions `e` and `c` -/
def expansion (e c : CExpr) : Option CExpr := Gen.capTree.map fun t => subst CAP c (subst X e t)

/-- **C18 (hygiene)**: for ANY precedence-correct argument expressions the expanded token string
(the preprocessor's output) is the rendering of a precedence-correct tree in which the arguments
are intact sub-expressions. -/
theorem C18_hygienic (e c : CExpr) (he : wellPrec e = true) (hc : wellPrec c = true)
    (hfree : CAP ∉ render e) :
    ∃ t, expansion e c = some t ∧ wellPrec t = true ∧
      render t = substTokens CAP (render c) (substTokens X (render e) Gen.capTokens) := by
  obtain ⟨T, hT, hr, hwp, hgX, hgC, hcX, hcC, _⟩ := C18_macro
  have hf := fresh_of_notin hfree
  rw [expansion, hT]
  refine ⟨_, rfl, ?_, ?_⟩
  · rw [wellPrec_subst CAP c _ hc (guarded_subst CAP X e T hf.guarded hgC), wellPrec_subst X e T he hgX, hwp]
  · rw [render_subst CAP c _ ((clean_subst CAP X e T hf.clean).trans hcC), render_subst X e T hcX, hr]

/-- **C18 (value)**: whatever the argument expressions are, the expansion evaluates to
`value(e) & (1 << value(c))`. -/
theorem C18_eval (env : Name → Nat) (e c : CExpr) (hfree : CAP ∉ render e) :
    ∃ t, expansion e c = some t ∧ eval env t = eval env e &&& (1 <<< eval env c) := by
  obtain ⟨T, hT, _, _, _, _, _, _, hs⟩ := C18_macro
  rw [expansion, hT]
  refine ⟨_, rfl, ?_⟩
  have hne : ¬ (CAP = X) := by decide
  rw [← eval_strip, strip_subst, strip_subst, hs]
  simp only [subst, if_true, hne, if_false]
  rw [← strip_subst, (fresh_of_notin hfree).subst c]
  show eval env (strip e) &&& 1 <<< eval env (strip c) = _
  rw [eval_strip, eval_strip]

theorem and_shift_ne_zero (x b : Nat) : x &&& (1 <<< b) ≠ 0 ↔ x.testBit b = true := by
  rw [Nat.one_shiftLeft]
  constructor
  · intro h
    obtain ⟨i, hi⟩ := Nat.exists_testBit_of_ne_zero h
    rw [Nat.testBit_and, Nat.testBit_two_pow, Bool.and_eq_true, decide_eq_true_eq] at hi
    exact hi.2 ▸ hi.1
  · intro h hz
    have := congrArg (·.testBit b) hz
    simp [h] at this

/-- **C18 (bit)**: for every capability value and every published name, the test is non-zero
exactly when the IEEE-assigned bit is set — for every way of writing the argument. -/
theorem C18_bit (env : Name → Nat) (e c : CExpr) (hfree : CAP ∉ render e) :
    ∃ t, expansion e c = some t ∧ (eval env t ≠ 0 ↔ (eval env e).testBit (eval env c) = true) := by
  obtain ⟨t, ht, hv⟩ := C18_eval env e c hfree
  exact ⟨t, ht, by rw [hv]; exact and_shift_ne_zero _ _⟩

/-- **C18 (table)**: the published capability numbers are the IEEE bit positions (9.4.1.4),
and no two capabilities test the same bit -/
theorem C18_table : Gen.enum_libwifi_capabilities = Spec.ieeeCapBit := by decide +kernel

theorem C18_distinct : (Gen.enum_libwifi_capabilities.map (·.2)).Nodup :=
  nodup_of_sorted_strictAsc (by decide +kernel)

/-! non-vacuity: `a | b` (the shape that breaks an unparenthesised macro) meets the hypotheses -/
example : wellPrec (bin .bor (var n!"a") (var n!"b")) = true ∧ CAP ∉ render (bin .bor (var n!"a") (var n!"b")) := by
  decide

end LWV.Props.C18
