import LWV.Props.C09Rssi
import LWV.Model.Rssi
import LWV.Props.C02
import LWV.Props.Shape
import LWV.Props.C06
import LWV.Props.C08
import LWV.Props.C12
import LWV.Props.C11
import LWV.Props.C04Full
/-
C01 — parsing arbitrary bytes is memory-safe and always returns.

Every read of the model goes through `rd` / `rdSlice`, which fault outside the allocation they
read from, and every loop carries fuel whose exhaustion is a fault too.  "No entry point ever
produces `Outcome.fault`" therefore says: for EVERY byte string, no read leaves the buffer (or the
library's own copies) and every loop terminates within its bound.  The theorems below state this
for each parsing entry point of the model, for all inputs, and compose them end to end: whatever
bytes are classified, every parser applied to the classified frame is fault free.

Each theorem is read off the statement that says what its routine returns: `Sim.not_fault` of a
simulation, an equation of C11 / C12, the clauses of `C04Full`.

`Shape` and `classify_shape` are declared into this namespace by Props/Shape.lean; the clause for the
radiotap parser, `Model.parseRadiotapInfo_no_fault`, stands at the end of Props/C09Full.lean; that every
reported error is `-EINVAL` (`C01_error_codes`, `ErrInval`) is in Props/C02Full.lean.
-/
namespace LWV.Props.C01
open LWV LWV.Model

def NoFault {α} (o : Outcome α) : Prop := ∀ f, o ≠ .fault f

theorem NoFault.of_ok {α} {o : Outcome α} {a : α} (h : o = .ok a) : NoFault o := fun _ hf => by rw [h] at hf; cases hf
theorem NoFault.of_err {α} {o : Outcome α} {c : Int} (h : o = .err c) : NoFault o := fun _ hf => by rw [h] at hf; cases hf

/-- the radiotap parser (vendored iterator included) never reads outside the buffer and never
exhausts its fuel -/
theorem C01_radiotap (bs : Bytes) : NoFault (parseRadiotapInfo bs) := parseRadiotapInfo_no_fault bs

/-- **classification** never faults, in either mode, on any byte string -/
theorem C01_classify (rt : Bool) (bs : Bytes) : NoFault (classify rt bs) := by
  unfold classify
  split
  · cases h : parseRadiotapInfo bs with
    | ok info => exact (C02.classifyCore_sim ..).not_fault
    | err c => exact .of_err rfl
    | fault f => exact absurd h (C01_radiotap bs f)
  · exact (C02.classifyCore_sim ..).not_fault

/-- strings shorter than the shortest header are refused in both modes -/
theorem C01_short (rt : Bool) (bs : Bytes) (h : bs.length < 4) : classify rt bs = .err (-EINVAL) := by
  cases rt with
  | false =>
    rw [C02.C02_plain, C02.classifyCore_plain, C02.coreOf_short bs false h]
  | true => rw [C02.C02_radiotap, C09.C09_refuse bs (Or.inl (Nat.lt_of_lt_of_le h (by decide)))]

theorem C01_data (f : Frame) (hs : Shape f) : NoFault (parseData f) := by
  obtain ⟨b0, b1, hfc⟩ := hs.fc
  rw [C02.parseData_eq f b0 b1 hfc fun h2 => by
    rw [hs.header]; exact Nat.le_trans (by decide) (hs.long b0 b1 hfc (by rw [h2]; decide))]
  split
  · exact .of_ok rfl
  · exact .of_err rfl

theorem C01_iterator (bs : Bytes) : NoFault (reported bs) := by
  intro f
  rw [C06.C06_exact]
  split <;> nofun

/-- **RSN / WPA element walkers**: hostile counts are refused or clamped, never followed -/
theorem C01_security (el : Bytes) : NoFault (getRsnInfo el) ∧ NoFault (getWpaInfo el) :=
  ⟨(C08.getRsnInfo_sim el).not_fault, (C08.getWpaInfo_sim el).not_fault⟩

/-- **the nine management parsers** never fault on a classified frame, whatever its subtype and
whatever its element region contains (truncated elements, hostile suite counts, empty regions):
each answers what `C04Full` says it answers -/
theorem C01_mgmt (k : MKind) (f : Frame) (hs : Shape f) : NoFault (parseMgmt k f) := by
  by_cases ht : typeOk f k = true
  · rcases C04Full.MKind.trichotomy k with hk | hk | hk
    · rw [C04Full.parseMgmt_bss k hk f ht]
      exact (C04Full.bssKind_sim f hs.body _ _ (capsOff_lt k) _ _ _).not_fault
    · rw [C04Full.parseMgmt_sta k hk f ht]
      exact (C04Full.staKind_sim f hs.body _ _ (by rcases hk with rfl | rfl | rfl <;> decide) _ _).not_fault
    · obtain ⟨h1, h2⟩ := C04Full.C04_parse_reason k hk f hs ht
      obtain ⟨b0, b1, hfc⟩ := hs.fc
      by_cases hc : f.len < f.headerLen + 2
      · exact .of_err (h1 hc)
      · exact .of_ok (h2 (Nat.not_lt.1 hc) b0 b1 hfc)
  · exact .of_err (C04.C04_other_subtype k f (Bool.eq_false_iff.mpr ht))

theorem C01_eapol (f : Frame) (hs : Shape f) :
    NoFault (checkHandshake f) ∧ NoFault (checkMessage f) ∧ NoFault (keyDataLength f) ∧ NoFault (getWpaData f) := by
  have hc : C12.Coherent f := hs.body
  refine ⟨.of_ok (C12.C12_recognise f hc), .of_ok (C12.C12_message f hc), .of_ok (C12.keyDataLength_eq f hc), ?_⟩
  by_cases hh : Spec.isHandshake (frameType f == 2) f.body = true
  · obtain ⟨d, hd, _⟩ := C12.C12_extract f hc hh
    exact .of_ok hd
  · exact .of_err (C12.getWpaData_refuse f hc hh)

theorem C01_crc (bs : Bytes) : NoFault (frameVerify bs) := .of_ok (C11.C11_verify bs)

/-- `libwifi_parse_radiotap_rssi` is fault free on every buffer that holds the header its own
length field announces (the function has no way to know the buffer's real length: D22) -/
theorem C01_rssi_covered (bs : Bytes) (h : rssiCovered bs = true) : NoFault (parseRssi bs) := by
  unfold rssiCovered at h
  split at h
  · rename_i n hl
    have h4 : 4 ≤ bs.length := le16At_bound hl
    rw [le16At_u16 h4] at hl
    cases hl
    have hle : Spec.u16 bs 2 ≤ bs.length := of_decide_eq_true h
    exact .of_ok (C09Rssi.parseRssi_eq bs (Spec.u16 bs 2) h4 hle
      (Nat.lt_of_le_of_lt (Nat.le_mul_of_pos_left _ (by decide)) (Nat.lt_add_of_pos_left (by decide))))
  · cases h

/-- **C01** for every byte string and either mode: classification never faults, and every parser
applied to whatever frame it produced never faults either -/
theorem C01_end_to_end (rt : Bool) (bs : Bytes) :
    NoFault (classify rt bs) ∧
    ∀ f, classify rt bs = .ok f →
      (∀ k, NoFault (parseMgmt k f)) ∧ NoFault (parseData f) ∧
      NoFault (checkHandshake f) ∧ NoFault (checkMessage f) ∧ NoFault (keyDataLength f) ∧ NoFault (getWpaData f) := by
  refine ⟨C01_classify rt bs, fun f hf => ?_⟩
  have hs := classify_shape rt bs f hf
  exact ⟨fun k => C01_mgmt k f hs, C01_data f hs, C01_eapol f hs⟩

/-- non-vacuity: a beacon with an SSID element is classified and parsed; a truncated element is refused -/
example : (classify false ([0x80, 0] ++ List.replicate 22 0 ++ List.replicate 12 0 ++ [0, 2, 0x61, 0x62]) >>= parseMgmt .beacon).isOk = true := by
  decide +kernel
example : (classify false ([0x80, 0] ++ List.replicate 22 0 ++ List.replicate 12 0 ++ [0, 9, 0x61, 0x62]) >>= parseMgmt .beacon) = .err (-EINVAL) := by
  decide +kernel

end LWV.Props.C01
