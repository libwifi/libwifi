import LWV.Props.C02Full
import LWV.Props.C03Full
import LWV.Props.C04Full
/-
C04 (round trip) — a frame produced by the generators, classified and handed to the parser of its
subtype, reports the arguments it was generated from.

The file composes generation (`C03.C03_create`, `C03Full.good_of_run`: the dumped octets are
`Spec.frame …`), classification (`C02.C02_plain`, `C02Full.classify_prefix`) and parsing
(`C04Full.C04_parse_bss / _sta / _reason`, `visible_all`, `LWV.parse_encode`): a generated
frame is 24 header octets followed by fixed fields and encoded elements, the classifier slices it
exactly there (`classify_gen`; behind a generated radiotap header `classify_gen_rt`: the same frame
with the radiotap record and two flags, which no parser reads), and the parser reports the Spec
report of the element list (`parse_bss_gen`, `parse_sta_gen`; `BssRound`, `StaRound`, `ReasonRound`)
— after any admissible edit history (`*_history`), freshly created with the fields spelled out
(`*_fresh`, `BssFresh`, `StaFresh`, `FreshReport`), and behind a generated radiotap header with the
four FCS octets exactly when the header announces them (`*_rt`).

What "the arguments" are (follow `Model.create`, `C03.sa`): addresses are the first six octets of the
argument (zero padded), the SSID is the C string before the first NUL, the channel is one octet
(`a.ch % 256`), the reason code two (`a.reason % 65536`).  The parsers keep 32 SSID octets.
-/
namespace LWV.Props.C04Round
open LWV LWV.Model LWV.Spec LWV.Props.C03 LWV.Props.C03Full LWV.Props.C04Full

/-- the generator kind of a parser kind (`mkind_gk`: `mkind (gk m) = some m`) -/
def gk : MKind → GKind
  | .beacon => .beacon | .probeResp => .probeResp | .assocResp => .assocResp | .reassocResp => .reassocResp
  | .probeReq => .probeReq | .assocReq => .assocReq | .reassocReq => .reassocReq | .deauth => .deauth | .disassoc => .disassoc

/-- the parser of a generator kind (none for authentication, action, timing advertisement, ATIM, RTS, CTS) -/
def mkind : GKind → Option MKind
  | .beacon => some .beacon | .probeResp => some .probeResp | .assocResp => some .assocResp | .reassocResp => some .reassocResp
  | .probeReq => some .probeReq | .assocReq => some .assocReq | .reassocReq => some .reassocReq
  | .deauth => some .deauth | .disassoc => some .disassoc
  | _ => none

theorem mkind_gk (m : MKind) : mkind (gk m) = some m := by cases m <;> rfl
theorem gk_of_mkind (k : GKind) (m : MKind) (h : mkind k = some m) : k = gk m := by
  cases k <;> cases h <;> rfl

/-- the 24 header octets of a generated management frame -/
def hdr24 (m : MKind) (a : GArgs) : Bytes :=
  Spec.frameControl (sk (gk m)) ++ [0, 0] ++ mac a.a1 ++ mac a.a2 ++ mac a.a3 ++ [0, 0]

/-- the body of a generated management frame: fixed fields, then the elements -/
def bodyOf (m : MKind) (a : GArgs) (es : List Elem) : Bytes := Spec.fixed (sk (gk m)) (sa a) ++ encode es

theorem frame_eq_hdr24 (m : MKind) (a : GArgs) (es : List Elem) (det : Bytes) :
    Spec.frame (sk (gk m)) (sa a) es det = hdr24 m a ++ bodyOf m a es := by
  cases m <;> exact List.append_assoc ..

/-- what the classifier returns for `hdr24 m a ++ body` (no radiotap) -/
def genFrame (m : MKind) (a : GArgs) (body : Bytes) : Frame :=
  { flags := 0, fc := Spec.frameControl (sk (gk m)), len := 24 + body.length, headerLen := 24,
    header := hdr24 m a, body := body, radiotap := none }

theorem hdr24_length (m : MKind) (a : GArgs) : (hdr24 m a).length = 24 := by
  simp only [hdr24, Spec.frameControl, List.length_append, mac_length, List.length_cons, List.length_nil]

/-- **classification of a generated frame** header = the 24 octets, body = everything after -/
theorem classify_gen (m : MKind) (a : GArgs) (body : Bytes) :
    classify false (hdr24 m a ++ body) = .ok (genFrame m a body) := by
  rw [C02.C02_plain]
  have hl := hdr24_length m a
  -- the second frame-control octet is 0 by definition; the type bits of the first are 0 for each of the nine kinds
  obtain ⟨b0, rest, hh, hfc, hty⟩ :
      ∃ b0 rest, hdr24 m a = b0 :: 0 :: rest ∧ Spec.frameControl (sk (gk m)) = [b0, 0] ∧ b0.toNat / 4 % 4 = 0 :=
    ⟨_, _, rfl, rfl, by cases m <;> decide⟩
  have hrest : rest.length = 22 := by rw [hh] at hl; simpa using hl
  unfold genFrame
  rw [hfc]
  have hcore : Spec.classifyCore (hdr24 m a ++ body) 0 false =
      some { fcs := false, qos := false, ordered := false, len := 24 + body.length, headerLen := 24,
             fc := [b0, 0], header := hdr24 m a, body := body } := by
    rw [hh]
    have ht : (rest ++ body).take 22 = rest := List.take_left' hrest
    have hd : (rest ++ body).drop 22 = body := List.drop_left' hrest
    simp [Spec.classifyCore, Spec.hdrLen, hty, ht, hd, hrest]
    exact Nat.add_right_comm 22 body.length 2
  rw [hcore]
  simp [C02.frameOf]

/-- behind a generated radiotap header, with the four FCS octets exactly when the header announces them, the
classifier returns `genFrame` with the radiotap record and the flags added -/
theorem classify_gen_rt (m : MKind) (a : GArgs) (body : Bytes) (g : RtGen) (hg : C10.OnlyCarried g) (ha : g.antennaCount ≤ 16)
    (tail : Bytes) (htail : tail.length = if C02Full.announcesFcs g then 4 else 0) :
    ∃ info, classify true (Spec.rtEncode (C10.descOf g) ++ (hdr24 m a ++ body) ++ tail) =
      .ok { genFrame m a body with flags := 8 ||| (if C02Full.announcesFcs g then 1 else 0), radiotap := some info } := by
  obtain ⟨info, _, h⟩ := C02Full.classify_prefix g hg ha (hdr24 m a ++ body) tail htail
  exact ⟨info, by rw [h, classify_gen]; simp only [Outcome.bind_ok, genFrame, Nat.zero_or]⟩

theorem genFrame_shape (m : MKind) (a : GArgs) (body : Bytes) : C01.Shape (genFrame m a body) :=
  C01.classify_shape false _ _ (classify_gen m a body)

theorem genFrame_typeOk (m : MKind) (a : GArgs) {body : Bytes} : typeOk (genFrame m a body) m = true := by
  cases m <;> rfl

theorem genFrame_body (m : MKind) (a : GArgs) (body : Bytes) : (genFrame m a body).body = body := rfl

/-- a header of four octets followed by three six-octet fields: the fields are the addresses -/
theorem addrs_of_header {f : Frame} (p : Bytes) {x y z : Bytes} (t : Bytes) (hp : p.length = 4) (hx : x.length = 6)
    (hy : y.length = 6) (hz : z.length = 6) (h : f.header = p ++ x ++ y ++ z ++ t) : addrs f = (x, y, z) := by
  have field : ∀ {A V X : Bytes} {i : Nat}, A.length = i → V.length = 6 → slice (A ++ V ++ X) i 6 = V := by
    intro A V X i hA hV
    subst hA
    exact (slice_mid A V X 0 6 (Nat.le_of_eq hV.symm)).trans (List.take_of_length_le (Nat.le_of_eq hV))
  unfold addrs
  rw [h]
  refine Prod.ext ?_ (Prod.ext ?_ ?_)
  · rw [List.append_assoc _ z, List.append_assoc _ y]
    exact field hp hx
  · rw [List.append_assoc _ z]
    exact field (by rw [List.length_append, hp, hx]) hy
  · exact field (by rw [List.length_append, List.length_append, hp, hx, hy]) hz

/-- the parsers' three addresses are the generator's three address arguments, in order -/
theorem genFrame_addrs (m : MKind) (a : GArgs) (body : Bytes) :
    addrs (genFrame m a body) = (mac a.a1, mac a.a2, mac a.a3) :=
  addrs_of_header (Spec.frameControl (sk (gk m)) ++ [0, 0]) [0, 0] rfl (mac_length _) (mac_length _) (mac_length _) rfl

theorem fixed_length (m : MKind) (a : GArgs) : (Spec.fixed (sk (gk m)) (sa a)).length = m.fixedLen := by
  cases m
  case reassocReq => exact (List.length_append.trans (congrArg _ (mac_length a.ap)))
  all_goals rfl

theorem body_tags (m : MKind) (a : GArgs) (es : List Elem) : (bodyOf m a es).drop m.fixedLen = encode es :=
  List.drop_left' (fixed_length m a)

/-- the capability field the generators write has the Privacy bit clear -/
theorem body_privacy (m : MKind) (hm : MKind.isBss m) (a : GArgs) (es : List Elem) :
    privacyBit (bodyOf m a es) m.capsOff = false := by
  have h : (bodyOf m a es).getD m.capsOff 0 = 1 := by rcases hm with rfl | rfl | rfl | rfl <;> rfl
  unfold privacyBit
  rw [h]
  rfl

theorem visible_encode {es : List Elem} (hb : bodiesOk es) (hne : noInnerEmpty es = true) :
    visibleElems (encode es) = es := by
  rw [visible_all _ (by rw [parse_encode es hb]; exact hne), parse_encode es hb]

/-- `C04_parse_bss` at a generated frame: the tag region is `encode es`, the addresses are the three
address arguments, the Privacy bit is clear -/
theorem parse_bss_gen (m : MKind) (hm : MKind.isBss m) (a : GArgs) (es : List Elem) :
    (¬ firstFits (encode es) → parseMgmt m (genFrame m a (bodyOf m a es)) = .err (-EINVAL)) ∧
    (firstFits (encode es) →
      match Spec.bssReport false (visibleElems (encode es)) with
      | none => parseMgmt m (genFrame m a (bodyOf m a es)) = .err (-EINVAL)
      | some r => ∃ b, parseMgmt m (genFrame m a (bodyOf m a es)) = .ok (.bss b) ∧
          b.receiver = mac a.a1 ∧ b.transmitter = mac a.a2 ∧ b.bssid = mac a.a3 ∧ b.tags = encode es ∧ Agrees b r) := by
  have hs := genFrame_shape m a (bodyOf m a es)
  obtain ⟨h1, h2⟩ := C04_parse_bss m hm _ hs (genFrame_typeOk m a)
  have h := And.intro (fun hn => h1 (Or.inr hn)) fun hfit => h2 (firstFits_drop hs.body hfit) hfit
  simp only [genFrame_body, body_tags, genFrame_addrs, body_privacy m hm] at h
  exact h

theorem parse_sta_gen (m : MKind) (hm : MKind.isSta m) (a : GArgs) (es : List Elem) :
    (¬ firstFits (encode es) → parseMgmt m (genFrame m a (bodyOf m a es)) = .err (-EINVAL)) ∧
    (firstFits (encode es) → ∃ s, parseMgmt m (genFrame m a (bodyOf m a es)) = .ok (.sta s) ∧
      s.transmitter = mac a.a2 ∧ s.bssid = mac a.a3 ∧
      s.randomized = (if ((mac a.a2).getD 0 0).toNat / 2 % 2 = 1 then 1 else 0) ∧
      s.tags = encode es ∧ StaAgrees s (Spec.staReport (visibleElems (encode es)))) := by
  have h := C04_parse_sta m hm _ (genFrame_shape m a (bodyOf m a es)) (genFrame_typeOk m a)
  simp only [genFrame_body, body_tags, genFrame_addrs] at h
  exact h

/-- what the BSS-side parser of kind `m` says about a frame `f` generated from `a` with elements `es` -/
def BssRound (m : MKind) (a : GArgs) (es : List Elem) (f : Frame) : Prop :=
  typeOk f m = true ∧
  (es = [] → parseMgmt m f = .err (-EINVAL)) ∧
  (es ≠ [] →
    match Spec.bssReport false es with
    | none => parseMgmt m f = .err (-EINVAL)
    | some r => ∃ b, parseMgmt m f = .ok (.bss b) ∧
        b.receiver = mac a.a1 ∧ b.transmitter = mac a.a2 ∧ b.bssid = mac a.a3 ∧ b.tags = encode es ∧ Agrees b r)

/-- without the side condition on empty elements: the BSS-side parser reports the Spec report of the
elements the iterator SHOWS (`visibleElems`), whatever the list -/
theorem bss_core_visible (m : MKind) (hm : MKind.isBss m) (a : GArgs) (es : List Elem) (hb : bodiesOk es) (he : es ≠ []) :
    match Spec.bssReport false (visibleElems (encode es)) with
    | none => parseMgmt m (genFrame m a (bodyOf m a es)) = .err (-EINVAL)
    | some r => ∃ b, parseMgmt m (genFrame m a (bodyOf m a es)) = .ok (.bss b) ∧
        b.receiver = mac a.a1 ∧ b.transmitter = mac a.a2 ∧ b.bssid = mac a.a3 ∧ b.tags = encode es ∧ Agrees b r :=
  (parse_bss_gen m hm a es).2 ((firstFits_encode hb).mpr he)

theorem bss_core (m : MKind) (hm : MKind.isBss m) (a : GArgs) {es : List Elem} (hb : bodiesOk es)
    (hne : noInnerEmpty es = true) : BssRound m a es (genFrame m a (bodyOf m a es)) := by
  refine ⟨genFrame_typeOk m a, fun he => (parse_bss_gen m hm a es).1 fun h => (firstFits_encode hb).mp h he, fun he => ?_⟩
  have := bss_core_visible m hm a es hb he
  rwa [visible_encode hb hne] at this

def StaRound (m : MKind) (a : GArgs) (es : List Elem) (f : Frame) : Prop :=
  typeOk f m = true ∧
  (es = [] → parseMgmt m f = .err (-EINVAL)) ∧
  (es ≠ [] → ∃ s, parseMgmt m f = .ok (.sta s) ∧
      s.transmitter = mac a.a2 ∧ s.bssid = mac a.a3 ∧
      s.randomized = (if ((mac a.a2).getD 0 0).toNat / 2 % 2 = 1 then 1 else 0) ∧
      s.tags = encode es ∧ StaAgrees s (Spec.staReport es))

theorem sta_core (m : MKind) (hm : MKind.isSta m) (a : GArgs) {es : List Elem} (hb : bodiesOk es)
    (hne : noInnerEmpty es = true) : StaRound m a es (genFrame m a (bodyOf m a es)) := by
  refine ⟨genFrame_typeOk m a, fun he => (parse_sta_gen m hm a es).1 fun h => (firstFits_encode hb).mp h he, fun he => ?_⟩
  have := (parse_sta_gen m hm a es).2 ((firstFits_encode hb).mpr he)
  rwa [visible_encode hb hne] at this

theorem sta_core_visible (m : MKind) (hm : MKind.isSta m) (a : GArgs) (es : List Elem) (hb : bodiesOk es) (he : es ≠ []) :
    ∃ s, parseMgmt m (genFrame m a (bodyOf m a es)) = .ok (.sta s) ∧
      s.transmitter = mac a.a2 ∧ s.bssid = mac a.a3 ∧ s.tags = encode es ∧
      StaAgrees s (Spec.staReport (visibleElems (encode es))) := by
  obtain ⟨s, h1, h3, h4, _, h6, h7⟩ := (parse_sta_gen m hm a es).2 ((firstFits_encode hb).mpr he)
  exact ⟨s, h1, h3, h4, h6, h7⟩

def ReasonRound (m : MKind) (a : GArgs) (es : List Elem) (f : Frame) : Prop :=
  typeOk f m = true ∧
  parseMgmt m f = .ok (.reason { ordered := false, header := hdr24 m a, reason := a.reason % 65536, tags := encode es })

theorem le16_leBytes (v : Nat) (rest : Bytes) :
    le16 ((leBytes 2 v ++ rest).getD 0 0) ((leBytes 2 v ++ rest).getD 1 0) = v % 65536 := leNat_leBytes 2 v

theorem reason_core (m : MKind) (hm : MKind.isReason m) (a : GArgs) {es : List Elem} :
    ReasonRound m a es (genFrame m a (bodyOf m a es)) := by
  have hb : bodyOf m a es = leBytes 2 a.reason ++ encode es := by rcases hm with rfl | rfl <;> rfl
  have hlen : 24 + 2 ≤ 24 + (bodyOf m a es).length := by
    rw [hb]; exact Nat.add_le_add_left (Nat.le_add_left 2 (encode es).length) 24
  refine ⟨genFrame_typeOk m a, ?_⟩
  rw [(C04_parse_reason m hm _ (genFrame_shape m a _) (genFrame_typeOk m a)).2 hlen _ _ rfl, genFrame_body, hb, le16_leBytes]
  rfl

/-- a C string is empty or starts with a non-zero octet: "all zero" only happens when it is empty -/
theorem hidden_cstr (s : Bytes) :
    (if (cstr s).isEmpty ∨ ((cstr s).take 32).all (· == 0) then 1 else 0 : Nat) = if cstr s = [] then 1 else 0 := by
  unfold cstr
  cases s with
  | nil => rfl
  | cons y u =>
    by_cases hy : y = 0 <;> simp [hy]

/-- kinds whose generator writes an SSID element -/
def carriesSsid : MKind → Bool
  | .beacon | .probeResp | .probeReq | .assocReq | .reassocReq => true
  | _ => false

/-- the 33-octet SSID array the parsers report for a generated frame -/
def ssidOf (m : MKind) (a : GArgs) : Bytes :=
  if carriesSsid m then Spec.overlay (List.replicate 33 0) (cstr a.ssid) else List.replicate 33 0

def freshBss (m : MKind) (a : GArgs) : Spec.BssReport :=
  { ssid := ssidOf m a, hidden := if carriesSsid m ∧ cstr a.ssid = [] then 1 else 0, channel := a.ch % 256,
    wps := 0, enc := 0, rsn := none, wpa := none }

theorem bssReport_fresh (m : MKind) (hm : MKind.isBss m) (a : GArgs) :
    Spec.bssReport false (Spec.initialElems (sk (gk m)) (sa a)) = some (freshBss m a) := by
  have hc : a.ch % 256 = (UInt8.ofNat a.ch).toNat := (UInt8.toNat_ofNat' ..).symm
  -- with `freshBss` spelled out in the Spec's own terms, the report of the initial elements is an evaluation
  rcases hm with rfl | rfl | rfl | rfl <;>
    simp only [freshBss, ssidOf, carriesSsid, true_and, false_and, if_true, if_false, Bool.false_eq_true, ← hidden_cstr a.ssid, hc] <;> rfl

def freshSta (a : GArgs) : Spec.StaReport :=
  { ssid := Spec.overlay (List.replicate 33 0) (cstr a.ssid), channel := a.ch % 256 }

theorem staReport_fresh (m : MKind) (hm : MKind.isSta m) (a : GArgs) :
    Spec.staReport (Spec.initialElems (sk (gk m)) (sa a)) = freshSta a := by
  have hc : a.ch % 256 = (UInt8.ofNat a.ch).toNat := (UInt8.toNat_ofNat' ..).symm
  rcases hm with rfl | rfl | rfl <;> simp only [freshSta, hc] <;> rfl

theorem initial_bodiesOk (m : MKind) (a : GArgs) (hs : (cstr a.ssid).length ≤ 255) :
    bodiesOk (Spec.initialElems (sk (gk m)) (sa a)) := by
  obtain ⟨t, -, -, hp⟩ := initialTags_spec (gk m) a hs
  exact hp ▸ parseF_bodiesOk _ _

theorem initial_noInner (m : MKind) (a : GArgs) :
    noInnerEmpty (Spec.initialElems (sk (gk m)) (sa a)) = true := by
  cases m <;> rfl

theorem initial_ne (m : MKind) (hm : MKind.isBss m ∨ MKind.isSta m) (a : GArgs) :
    Spec.initialElems (sk (gk m)) (sa a) ≠ [] := by
  rcases hm with (rfl | rfl | rfl | rfl) | (rfl | rfl | rfl) <;> exact List.cons_ne_nil _ _

theorem initial_reason (m : MKind) (hm : MKind.isReason m) (a : GArgs) :
    Spec.initialElems (sk (gk m)) (sa a) = [] := by
  rcases hm with rfl | rfl <;> rfl

/-- what a `Good` object of a parsable kind dumps, and the one-octet bound on every element body -/
theorem good_bytes {m : MKind} {a : GArgs} {o : GObj} {es : List Elem} {det bytes : Bytes}
    (g : Good (gk m) a o es det) (he : o.encoding = .ok bytes) :
    bytes = hdr24 m a ++ bodyOf m a es ∧ bodiesOk es := by
  have henc := g.enc
  rw [he, frame_eq_hdr24] at henc
  refine ⟨Outcome.ok.inj henc, ?_⟩
  rw [← g.wf.parse]
  exact parseF_bodiesOk _ _

/-- **C04 (round trip, BSS side)** create, ANY admissible edit history, dump, classify, parse: with no
inner empty element in the reference state the parser reports `Spec.bssReport false` of the
reference elements (`Agrees`), the three address arguments and the element bytes; it refuses with
-EINVAL exactly when that report is `none` (an added RSN / WPA element too short for its counts) or
when every element has been removed -/
theorem C04_round_bss_history (m : MKind) (hm : MKind.isBss m) (a : GArgs) (hs : (cstr a.ssid).length ≤ 255)
    (edits : List GEdit) (had : admissibleAll (gk m) (st0 (gk m) a) edits = true)
    (hne : noInnerEmpty (refRun (st0 (gk m) a) edits).1 = true)
    (o0 o : GObj) (rs : List Int) (bytes : Bytes)
    (hc : create (gk m) a = .ok (0, o0)) (hr : runEdits o0 edits = .ok (rs, o)) (he : o.encoding = .ok bytes) :
    ∃ f, classify false bytes = .ok f ∧ BssRound m a (refRun (st0 (gk m) a) edits).1 f := by
  obtain ⟨rfl, hok⟩ := good_bytes (good_of_run (gk m) a hs edits had hc hr) he
  exact ⟨_, classify_gen m a _, bss_core m hm a hok hne⟩

/-- **C04 (round trip, station side)** likewise with `Spec.staReport` (`StaAgrees`) -/
theorem C04_round_sta_history (m : MKind) (hm : MKind.isSta m) (a : GArgs) (hs : (cstr a.ssid).length ≤ 255)
    (edits : List GEdit) (had : admissibleAll (gk m) (st0 (gk m) a) edits = true)
    (hne : noInnerEmpty (refRun (st0 (gk m) a) edits).1 = true)
    (o0 o : GObj) (rs : List Int) (bytes : Bytes)
    (hc : create (gk m) a = .ok (0, o0)) (hr : runEdits o0 edits = .ok (rs, o)) (he : o.encoding = .ok bytes) :
    ∃ f, classify false bytes = .ok f ∧ StaRound m a (refRun (st0 (gk m) a) edits).1 f := by
  obtain ⟨rfl, hok⟩ := good_bytes (good_of_run (gk m) a hs edits had hc hr) he
  exact ⟨_, classify_gen m a _, sta_core m hm a hok hne⟩

/-- for deauthentication / disassociation the SSID argument plays no role: no bound is needed -/
theorem good_of_run_reason (m : MKind) (hm : MKind.isReason m) (a : GArgs)
    (edits : List GEdit) (had : admissibleAll (gk m) (st0 (gk m) a) edits = true)
    {o0 o : GObj} {rs : List Int} (hc : create (gk m) a = .ok (0, o0)) (hr : runEdits o0 edits = .ok (rs, o)) :
    Good (gk m) a o (refRun (st0 (gk m) a) edits).1 (refRun (st0 (gk m) a) edits).2 := by
  refine good_of_run_parse (gk m) a edits had hc ?_ hr
  rcases hm with rfl | rfl <;> (cases hc; rfl)

/-- **C04 (round trip, deauthentication / disassociation)** after any admissible history the parser
reports the reason code (mod 2^16) and, as `tags`, the encoding of the reference elements -/
theorem C04_round_reason_history (m : MKind) (hm : MKind.isReason m) (a : GArgs)
    (edits : List GEdit) (had : admissibleAll (gk m) (st0 (gk m) a) edits = true)
    (o0 o : GObj) (rs : List Int) (bytes : Bytes)
    (hc : create (gk m) a = .ok (0, o0)) (hr : runEdits o0 edits = .ok (rs, o)) (he : o.encoding = .ok bytes) :
    ∃ f, classify false bytes = .ok f ∧ ReasonRound m a (refRun (st0 (gk m) a) edits).1 f := by
  obtain ⟨rfl, -⟩ := good_bytes (good_of_run_reason m hm a edits had hc hr) he
  exact ⟨_, classify_gen m a _, reason_core m hm a⟩

/-- what a BSS-side parser reports for a freshly generated frame of kind `m` -/
structure BssFresh (m : MKind) (a : GArgs) (b : Bss) : Prop where
  receiver : b.receiver = mac a.a1
  transmitter : b.transmitter = mac a.a2
  bssid : b.bssid = mac a.a3
  channel : b.channel = a.ch % 256
  ssid : b.ssid = ssidOf m a
  hidden : b.hidden = if carriesSsid m ∧ cstr a.ssid = [] then 1 else 0
  enc : b.enc = 0
  wps : b.wps = 0
  rsn : b.rsn = {}
  wpa : b.wpa = {}
  tags : b.tags = encode (Spec.initialElems (sk (gk m)) (sa a))

structure StaFresh (m : MKind) (a : GArgs) (s : Sta) : Prop where
  transmitter : s.transmitter = mac a.a2
  bssid : s.bssid = mac a.a3
  randomized : s.randomized = if ((mac a.a2).getD 0 0).toNat / 2 % 2 = 1 then 1 else 0
  channel : s.channel = a.ch % 256
  ssid : s.ssid = Spec.overlay (List.replicate 33 0) (cstr a.ssid)
  tags : s.tags = encode (Spec.initialElems (sk (gk m)) (sa a))

theorem bss_fresh_of_round (m : MKind) (hm : MKind.isBss m) (a : GArgs) {f : Frame}
    (h : BssRound m a (Spec.initialElems (sk (gk m)) (sa a)) f) :
    ∃ b, typeOk f m = true ∧ parseMgmt m f = .ok (.bss b) ∧ BssFresh m a b := by
  obtain ⟨ht, _, h3⟩ := h
  have := h3 (initial_ne m (Or.inl hm) a)
  rw [bssReport_fresh m hm a] at this
  obtain ⟨b, hb, r1, r2, r3, r4, hag⟩ := this
  exact ⟨b, ht, hb, ⟨r1, r2, r3, hag.channel, hag.ssid, hag.hidden, hag.enc, hag.wps, hag.rsn, hag.wpa, r4⟩⟩

theorem sta_fresh_of_round (m : MKind) (hm : MKind.isSta m) (a : GArgs) {f : Frame}
    (h : StaRound m a (Spec.initialElems (sk (gk m)) (sa a)) f) :
    ∃ s, typeOk f m = true ∧ parseMgmt m f = .ok (.sta s) ∧ StaFresh m a s := by
  obtain ⟨ht, _, h3⟩ := h
  obtain ⟨s, hs, r1, r2, r3, r4, hag⟩ := h3 (initial_ne m (Or.inr hm) a)
  rw [staReport_fresh m hm a] at hag
  exact ⟨s, ht, hs, ⟨r1, r2, r3, hag.channel, hag.ssid, r4⟩⟩

theorem reason_fresh_of_round (m : MKind) (hm : MKind.isReason m) (a : GArgs) {f : Frame}
    (h : ReasonRound m a (Spec.initialElems (sk (gk m)) (sa a)) f) :
    typeOk f m = true ∧
      parseMgmt m f = .ok (.reason { ordered := false, header := hdr24 m a, reason := a.reason % 65536, tags := [] }) := by
  rw [initial_reason m hm a] at h
  exact h

theorem C04_round_bss_fresh (m : MKind) (hm : MKind.isBss m) (a : GArgs) (hs : (cstr a.ssid).length ≤ 255)
    (o : GObj) (bytes : Bytes) (hc : create (gk m) a = .ok (0, o)) (he : o.encoding = .ok bytes) :
    ∃ f b, classify false bytes = .ok f ∧ typeOk f m = true ∧ parseMgmt m f = .ok (.bss b) ∧ BssFresh m a b := by
  obtain ⟨f, hf, hr⟩ := C04_round_bss_history m hm a hs [] rfl (initial_noInner m a) o o [] bytes hc rfl he
  obtain ⟨b, h⟩ := bss_fresh_of_round m hm a hr
  exact ⟨f, b, hf, h⟩

theorem C04_round_sta_fresh (m : MKind) (hm : MKind.isSta m) (a : GArgs) (hs : (cstr a.ssid).length ≤ 255)
    (o : GObj) (bytes : Bytes) (hc : create (gk m) a = .ok (0, o)) (he : o.encoding = .ok bytes) :
    ∃ f s, classify false bytes = .ok f ∧ typeOk f m = true ∧ parseMgmt m f = .ok (.sta s) ∧ StaFresh m a s := by
  obtain ⟨f, hf, hr⟩ := C04_round_sta_history m hm a hs [] rfl (initial_noInner m a) o o [] bytes hc rfl he
  obtain ⟨s, h⟩ := sta_fresh_of_round m hm a hr
  exact ⟨f, s, hf, h⟩

theorem C04_round_reason_fresh (m : MKind) (hm : MKind.isReason m) (a : GArgs)
    (o : GObj) (bytes : Bytes) (hc : create (gk m) a = .ok (0, o)) (he : o.encoding = .ok bytes) :
    ∃ f, classify false bytes = .ok f ∧ typeOk f m = true ∧
      parseMgmt m f = .ok (.reason { ordered := false, header := hdr24 m a, reason := a.reason % 65536, tags := [] }) := by
  obtain ⟨f, hf, hr⟩ := C04_round_reason_history m hm a [] rfl o o [] bytes hc rfl he
  exact ⟨f, hf, reason_fresh_of_round m hm a hr⟩

/-! The parsers read neither `flags` nor `radiotap`: what `BssRound`, `StaRound`, `ReasonRound` and
`FreshReport` say of the frame `classify_gen_rt` returns unfolds to what they say of `genFrame`. -/

theorem C04_round_bss_history_rt (m : MKind) (hm : MKind.isBss m) (a : GArgs) (hs : (cstr a.ssid).length ≤ 255)
    (edits : List GEdit) (had : admissibleAll (gk m) (st0 (gk m) a) edits = true)
    (hne : noInnerEmpty (refRun (st0 (gk m) a) edits).1 = true)
    (o0 o : GObj) (rs : List Int) (bytes : Bytes)
    (hc : create (gk m) a = .ok (0, o0)) (hr : runEdits o0 edits = .ok (rs, o)) (he : o.encoding = .ok bytes)
    (g : RtGen) (hg : C10.OnlyCarried g) (ha : g.antennaCount ≤ 16) (tail : Bytes)
    (htail : tail.length = if C02Full.announcesFcs g then 4 else 0) :
    ∃ f, classify true (Spec.rtEncode (C10.descOf g) ++ bytes ++ tail) = .ok f ∧
      f.flags = 8 ||| (if C02Full.announcesFcs g then 1 else 0) ∧
      BssRound m a (refRun (st0 (gk m) a) edits).1 f := by
  obtain ⟨rfl, hok⟩ := good_bytes (good_of_run (gk m) a hs edits had hc hr) he
  obtain ⟨info, h⟩ := classify_gen_rt m a _ g hg ha tail htail
  exact ⟨_, h, rfl, bss_core m hm a hok hne⟩

theorem C04_round_sta_history_rt (m : MKind) (hm : MKind.isSta m) (a : GArgs) (hs : (cstr a.ssid).length ≤ 255)
    (edits : List GEdit) (had : admissibleAll (gk m) (st0 (gk m) a) edits = true)
    (hne : noInnerEmpty (refRun (st0 (gk m) a) edits).1 = true)
    (o0 o : GObj) (rs : List Int) (bytes : Bytes)
    (hc : create (gk m) a = .ok (0, o0)) (hr : runEdits o0 edits = .ok (rs, o)) (he : o.encoding = .ok bytes)
    (g : RtGen) (hg : C10.OnlyCarried g) (ha : g.antennaCount ≤ 16) (tail : Bytes)
    (htail : tail.length = if C02Full.announcesFcs g then 4 else 0) :
    ∃ f, classify true (Spec.rtEncode (C10.descOf g) ++ bytes ++ tail) = .ok f ∧
      f.flags = 8 ||| (if C02Full.announcesFcs g then 1 else 0) ∧
      StaRound m a (refRun (st0 (gk m) a) edits).1 f := by
  obtain ⟨rfl, hok⟩ := good_bytes (good_of_run (gk m) a hs edits had hc hr) he
  obtain ⟨info, h⟩ := classify_gen_rt m a _ g hg ha tail htail
  exact ⟨_, h, rfl, sta_core m hm a hok hne⟩

theorem C04_round_reason_history_rt (m : MKind) (hm : MKind.isReason m) (a : GArgs)
    (edits : List GEdit) (had : admissibleAll (gk m) (st0 (gk m) a) edits = true)
    (o0 o : GObj) (rs : List Int) (bytes : Bytes)
    (hc : create (gk m) a = .ok (0, o0)) (hr : runEdits o0 edits = .ok (rs, o)) (he : o.encoding = .ok bytes)
    (g : RtGen) (hg : C10.OnlyCarried g) (ha : g.antennaCount ≤ 16) (tail : Bytes)
    (htail : tail.length = if C02Full.announcesFcs g then 4 else 0) :
    ∃ f, classify true (Spec.rtEncode (C10.descOf g) ++ bytes ++ tail) = .ok f ∧
      f.flags = 8 ||| (if C02Full.announcesFcs g then 1 else 0) ∧
      ReasonRound m a (refRun (st0 (gk m) a) edits).1 f := by
  obtain ⟨rfl, -⟩ := good_bytes (good_of_run_reason m hm a edits had hc hr) he
  obtain ⟨info, h⟩ := classify_gen_rt m a _ g hg ha tail htail
  exact ⟨_, h, rfl, reason_core m hm a⟩

theorem C04_round_bss_fresh_rt (m : MKind) (hm : MKind.isBss m) (a : GArgs) (hs : (cstr a.ssid).length ≤ 255)
    (o : GObj) (bytes : Bytes) (hc : create (gk m) a = .ok (0, o)) (he : o.encoding = .ok bytes)
    (g : RtGen) (hg : C10.OnlyCarried g) (ha : g.antennaCount ≤ 16) (tail : Bytes)
    (htail : tail.length = if C02Full.announcesFcs g then 4 else 0) :
    ∃ f b, classify true (Spec.rtEncode (C10.descOf g) ++ bytes ++ tail) = .ok f ∧ typeOk f m = true ∧
      parseMgmt m f = .ok (.bss b) ∧ BssFresh m a b := by
  obtain ⟨f, hf, _, hr⟩ := C04_round_bss_history_rt m hm a hs [] rfl (initial_noInner m a) o o [] bytes hc rfl he g hg ha tail htail
  obtain ⟨b, h⟩ := bss_fresh_of_round m hm a hr
  exact ⟨f, b, hf, h⟩

theorem C04_round_sta_fresh_rt (m : MKind) (hm : MKind.isSta m) (a : GArgs) (hs : (cstr a.ssid).length ≤ 255)
    (o : GObj) (bytes : Bytes) (hc : create (gk m) a = .ok (0, o)) (he : o.encoding = .ok bytes)
    (g : RtGen) (hg : C10.OnlyCarried g) (ha : g.antennaCount ≤ 16) (tail : Bytes)
    (htail : tail.length = if C02Full.announcesFcs g then 4 else 0) :
    ∃ f s, classify true (Spec.rtEncode (C10.descOf g) ++ bytes ++ tail) = .ok f ∧ typeOk f m = true ∧
      parseMgmt m f = .ok (.sta s) ∧ StaFresh m a s := by
  obtain ⟨f, hf, _, hr⟩ := C04_round_sta_history_rt m hm a hs [] rfl (initial_noInner m a) o o [] bytes hc rfl he g hg ha tail htail
  obtain ⟨s, h⟩ := sta_fresh_of_round m hm a hr
  exact ⟨f, s, hf, h⟩

theorem C04_round_reason_fresh_rt (m : MKind) (hm : MKind.isReason m) (a : GArgs)
    (o : GObj) (bytes : Bytes) (hc : create (gk m) a = .ok (0, o)) (he : o.encoding = .ok bytes)
    (g : RtGen) (hg : C10.OnlyCarried g) (ha : g.antennaCount ≤ 16) (tail : Bytes)
    (htail : tail.length = if C02Full.announcesFcs g then 4 else 0) :
    ∃ f, classify true (Spec.rtEncode (C10.descOf g) ++ bytes ++ tail) = .ok f ∧ typeOk f m = true ∧
      parseMgmt m f = .ok (.reason { ordered := false, header := hdr24 m a, reason := a.reason % 65536, tags := [] }) := by
  obtain ⟨f, hf, _, hr⟩ := C04_round_reason_history_rt m hm a [] rfl o o [] bytes hc rfl he g hg ha tail htail
  exact ⟨f, hf, reason_fresh_of_round m hm a hr⟩

/-- what "the parser reports the arguments" means for a freshly generated frame of parser kind `m` -/
def FreshReport (m : MKind) (a : GArgs) (f : Frame) : Prop :=
  typeOk f m = true ∧
  (MKind.isBss m → ∃ b, parseMgmt m f = .ok (.bss b) ∧ BssFresh m a b) ∧
  (MKind.isSta m → ∃ s, parseMgmt m f = .ok (.sta s) ∧ StaFresh m a s) ∧
  (MKind.isReason m →
    parseMgmt m f = .ok (.reason { ordered := false, header := hdr24 m a, reason := a.reason % 65536, tags := [] }))

/-- **C04 (round trip)** a frame produced by any of the nine generators with a parser, classified
and handed to the parser of its subtype, reports the arguments it was generated from -/
theorem C04_round_fresh (k : GKind) (m : MKind) (hk : mkind k = some m) (a : GArgs) (hs : (cstr a.ssid).length ≤ 255)
    (o : GObj) (bytes : Bytes) (hc : create k a = .ok (0, o)) (he : o.encoding = .ok bytes) :
    ∃ f, classify false bytes = .ok f ∧ FreshReport m a f := by
  obtain rfl := gk_of_mkind k m hk
  obtain ⟨d1, d2, d3⟩ := MKind.classes_disjoint m
  rcases MKind.trichotomy m with hm | hm | hm
  · obtain ⟨f, b, h1, h2, h3, h4⟩ := C04_round_bss_fresh m hm a hs o bytes hc he
    exact ⟨f, h1, h2, fun _ => ⟨b, h3, h4⟩, fun h => absurd ⟨hm, h⟩ d1, fun h => absurd ⟨hm, h⟩ d2⟩
  · obtain ⟨f, s, h1, h2, h3, h4⟩ := C04_round_sta_fresh m hm a hs o bytes hc he
    exact ⟨f, h1, h2, fun h => absurd ⟨h, hm⟩ d1, fun _ => ⟨s, h3, h4⟩, fun h => absurd ⟨hm, h⟩ d3⟩
  · obtain ⟨f, h1, h2, h3⟩ := C04_round_reason_fresh m hm a o bytes hc he
    exact ⟨f, h1, h2, fun h => absurd ⟨h, hm⟩ d2, fun h => absurd ⟨h, hm⟩ d3, fun _ => h3⟩

/-- **C04 (round trip, behind radiotap)** the frame reports its arguments likewise behind a generated radiotap
header, FCS octets appended exactly when the header announces them -/
theorem C04_round_fresh_rt (k : GKind) (m : MKind) (hk : mkind k = some m) (a : GArgs) (hs : (cstr a.ssid).length ≤ 255)
    (o : GObj) (bytes : Bytes) (hc : create k a = .ok (0, o)) (he : o.encoding = .ok bytes)
    (g : RtGen) (hg : C10.OnlyCarried g) (ha : g.antennaCount ≤ 16) (tail : Bytes)
    (htail : tail.length = if C02Full.announcesFcs g then 4 else 0) :
    ∃ f, classify true (Spec.rtEncode (C10.descOf g) ++ bytes ++ tail) = .ok f ∧ FreshReport m a f := by
  obtain ⟨f0, h0, hrep⟩ := C04_round_fresh k m hk a hs o bytes hc he
  obtain ⟨info, _, h⟩ := C02Full.classify_prefix g hg ha bytes tail htail
  rw [h, h0]
  exact ⟨_, rfl, hrep⟩

/-- the generators never fail for these kinds, so the hypotheses of the theorems are met: `create`
returns 0 and an object whose dump is defined -/
theorem C04_round_nonvacuous (m : MKind) (a : GArgs) (hs : (cstr a.ssid).length ≤ 255) :
    ∃ o bytes, create (gk m) a = .ok (0, o) ∧ o.encoding = .ok bytes := by
  obtain ⟨o, h1, _, h3, _⟩ := C03_create (gk m) a hs
  exact ⟨o, _, h1, h3⟩

/-- the reported SSID array, spelled out: the first 32 octets of the C string, zero-filled to 33 -/
theorem ssidOf_eq (m : MKind) (hm : carriesSsid m = true) (a : GArgs) :
    ssidOf m a = (cstr a.ssid).take 32 ++ List.replicate (33 - min (cstr a.ssid).length 32) 0 := by
  unfold ssidOf Spec.overlay
  rw [if_pos hm, List.drop_replicate]

/-! The MODEL itself evaluated in the kernel on concrete arguments (independently of the theorems), the
theorems instantiated at the same arguments, and the side conditions shown to matter. -/

def roundTrip (m : MKind) (a : GArgs) (edits : List GEdit) : Outcome Parsed := do
  let (_, o0) ← create (gk m) a
  let (_, o) ← runEdits o0 edits
  let bs ← o.encoding
  let f ← classify false bs
  parseMgmt m f

def roundTripRt (m : MKind) (a : GArgs) (edits : List GEdit) (g : RtGen) (tail : Bytes) : Outcome Parsed := do
  let (_, o0) ← create (gk m) a
  let (_, o) ← runEdits o0 edits
  let bs ← o.encoding
  let hdr ← createRadiotap g
  let f ← classify true (hdr ++ bs ++ tail)
  parseMgmt m f

/-- SSID "AB" (the C string stops at the NUL), channel 6 -/
def exArgs : GArgs :=
  { a1 := [0xff, 0xff, 0xff, 0xff, 0xff, 0xff], a2 := [2, 0, 0, 0, 0, 1], a3 := [2, 0, 0, 0, 0, 2], ssid := [0x41, 0x42, 0, 0x43], ch := 6, reason := 7, clk := ⟨5, 1000⟩ }

example : roundTrip .beacon exArgs [] =
    .ok (.bss { receiver := [0xff, 0xff, 0xff, 0xff, 0xff, 0xff], transmitter := [2, 0, 0, 0, 0, 1], bssid := [2, 0, 0, 0, 0, 2],
                ssid := [0x41, 0x42] ++ List.replicate 31 0, hidden := 0, channel := 6, wps := 0, enc := 0,
                tags := [0, 2, 0x41, 0x42, 3, 1, 6] }) := by decide +kernel

example : roundTrip .probeReq exArgs [] =
    .ok (.sta { transmitter := [2, 0, 0, 0, 0, 1], bssid := [2, 0, 0, 0, 0, 2], randomized := 1,
                ssid := [0x41, 0x42] ++ List.replicate 31 0, channel := 6, tags := [0, 2, 0x41, 0x42, 3, 1, 6] }) := by decide +kernel

example : roundTrip .deauth exArgs [] =
    .ok (.reason { ordered := false, reason := 7, tags := [],
                   header := [0xc0, 0, 0, 0, 0xff, 0xff, 0xff, 0xff, 0xff, 0xff, 2, 0, 0, 0, 0, 1, 2, 0, 0, 0, 0, 2, 0, 0] }) := by
  decide +kernel

/-- behind a radiotap header announcing an FCS -/
example : roundTripRt .probeReq exArgs [] { present := 2, flags := 0x10 } [1, 2, 3, 4] = roundTrip .probeReq exArgs [] := by
  decide +kernel

example : ∃ o bytes f b, create .beacon exArgs = .ok (0, o) ∧ o.encoding = .ok bytes ∧ classify false bytes = .ok f ∧
    parseMgmt .beacon f = .ok (.bss b) ∧ b.channel = 6 ∧ b.ssid = [0x41, 0x42] ++ List.replicate 31 0 ∧ b.hidden = 0 ∧
    b.transmitter = [2, 0, 0, 0, 0, 1] ∧ b.enc = 0 ∧ b.tags = [0, 2, 0x41, 0x42, 3, 1, 6] := by
  obtain ⟨o, bytes, hc, he⟩ := C04_round_nonvacuous .beacon exArgs (by decide)
  obtain ⟨f, b, h1, _, h3, hfr⟩ := C04_round_bss_fresh .beacon (Or.inl rfl) exArgs (by decide) o bytes hc he
  exact ⟨o, bytes, f, b, hc, he, h1, h3, hfr.channel, by rw [hfr.ssid]; decide +kernel, by rw [hfr.hidden]; decide +kernel,
    hfr.transmitter, hfr.enc, by rw [hfr.tags]; decide +kernel⟩

example : ∃ o bytes f s, create .probeReq exArgs = .ok (0, o) ∧ o.encoding = .ok bytes ∧
    classify true (Spec.rtEncode (C10.descOf { present := 2, flags := 0x10 }) ++ bytes ++ [1, 2, 3, 4]) = .ok f ∧
    parseMgmt .probeReq f = .ok (.sta s) ∧ s.channel = 6 ∧ s.ssid = [0x41, 0x42] ++ List.replicate 31 0 ∧
    s.transmitter = [2, 0, 0, 0, 0, 1] := by
  obtain ⟨o, bytes, hc, he⟩ := C04_round_nonvacuous .probeReq exArgs (by decide)
  obtain ⟨f, s, h1, _, h3, hfr⟩ := C04_round_sta_fresh_rt .probeReq (Or.inl rfl) exArgs (by decide) o bytes hc he
    { present := 2, flags := 0x10 } (C10.onlyCarried_of_subset _ (by decide)) (by decide) [1, 2, 3, 4] (by decide)
  exact ⟨o, bytes, f, s, hc, he, h1, h3, hfr.channel, by rw [hfr.ssid]; decide +kernel, hfr.transmitter⟩

/-- a history: WPS vendor element added, SSID replaced, channel replaced -/
def exEdits : List GEdit :=
  [.tag (.add 221 [0x00, 0x50, 0xf2, 4, 0x10, 0x4a]), .tag (.setSsid [0x58, 0x59, 0x5a]), .tag (.setChannel 11)]

example : admissibleAll .beacon (st0 .beacon exArgs) exEdits = true ∧
    noInnerEmpty (refRun (st0 .beacon exArgs) exEdits).1 = true ∧
    (Spec.bssReport false (refRun (st0 .beacon exArgs) exEdits).1).map (fun r => (r.ssid.take 4, r.hidden, r.channel, r.wps, r.enc)) =
      some ([0x58, 0x59, 0x5a, 0], 0, 11, 1, 0) := by decide +kernel

example : roundTrip .beacon exArgs exEdits =
    .ok (.bss { receiver := [0xff, 0xff, 0xff, 0xff, 0xff, 0xff], transmitter := [2, 0, 0, 0, 0, 1], bssid := [2, 0, 0, 0, 0, 2],
                ssid := [0x58, 0x59, 0x5a] ++ List.replicate 30 0, hidden := 0, channel := 11, wps := 1, enc := 0,
                tags := [221, 6, 0x00, 0x50, 0xf2, 4, 0x10, 0x4a, 0, 3, 0x58, 0x59, 0x5a, 3, 1, 11] }) := by decide +kernel

/-- the refusal clauses occur: an RSN element too short for its counts, and a frame whose last element
was removed, are generated without complaint and refused by the parser -/
example : admissibleAll .beacon (st0 .beacon exArgs) [.tag (.add 48 [1, 0])] = true ∧
    noInnerEmpty (refRun (st0 .beacon exArgs) [.tag (.add 48 [1, 0])]).1 = true ∧
    Spec.bssReport false (refRun (st0 .beacon exArgs) [.tag (.add 48 [1, 0])]).1 = none ∧
    roundTrip .beacon exArgs [.tag (.add 48 [1, 0])] = .err (-EINVAL) := by decide +kernel

example : admissibleAll .reassocResp (st0 .reassocResp exArgs) [.tag (.remove 3)] = true ∧
    (refRun (st0 .reassocResp exArgs) [.tag (.remove 3)]).1 = [] ∧
    roundTrip .reassocResp exArgs [.tag (.remove 3)] = .err (-EINVAL) := by decide +kernel

/-- the side condition `noInnerEmpty` is necessary: behind an inner empty element the parser's
iterator stops, so the appended DS element (channel 11) is generated but not reported -/
example : admissibleAll .beacon (st0 .beacon exArgs) [.tag (.add 7 []), .tag (.add 3 [11])] = true ∧
    noInnerEmpty (refRun (st0 .beacon exArgs) [.tag (.add 7 []), .tag (.add 3 [11])]).1 = false ∧
    (Spec.bssReport false (refRun (st0 .beacon exArgs) [.tag (.add 7 []), .tag (.add 3 [11])]).1).map (·.channel) = some 11 ∧
    roundTrip .beacon exArgs [.tag (.add 7 []), .tag (.add 3 [11])] =
      .ok (.bss { receiver := [0xff, 0xff, 0xff, 0xff, 0xff, 0xff], transmitter := [2, 0, 0, 0, 0, 1], bssid := [2, 0, 0, 0, 0, 2],
                  ssid := [0x41, 0x42] ++ List.replicate 31 0, hidden := 0, channel := 6, wps := 0, enc := 0,
                  tags := [0, 2, 0x41, 0x42, 3, 1, 6, 7, 0, 3, 1, 11] }) := by decide +kernel

end LWV.Props.C04Round
