import LWV.Model.Epoch
/-
C20 — timestamps never run backwards.  `Gen.epochExpr` is the return expression of
`libwifi_get_epoch`, regenerated from the working tree (clang AST) on every run.  The value in `Nat` here;
the timestamp field of generated frames in Props/C20Full.lean, signed 64-bit arithmetic in Props/C20Machine.lean.
-/
namespace LWV.Props.C20
open LWV LWV.Model

theorem shape_cases {e : EExpr} {a b : Nat} (h : e.shape = some (a, b)) :
    e = .add (.mul .sec (.lit a)) (.div .nsec (.lit b)) ∨ e = .add (.mul (.lit a) .sec) (.div .nsec (.lit b)) ∨
    e = .add (.div .nsec (.lit b)) (.mul .sec (.lit a)) ∨ e = .add (.div .nsec (.lit b)) (.mul (.lit a) .sec) := by
  unfold EExpr.shape at h
  split at h
  · cases h; exact Or.inl rfl
  · cases h; exact Or.inr (Or.inl rfl)
  · cases h; exact Or.inr (Or.inr (Or.inl rfl))
  · cases h; exact Or.inr (Or.inr (Or.inr rfl))
  · cases h

theorem eval_of_shape {e : EExpr} {a b : Nat} (h : e.shape = some (a, b)) {s n : Nat} :
    e.eval s n = s * a + n / b := by
  rcases shape_cases h with rfl | rfl | rfl | rfl
  · rfl
  · exact congrArg (· + n / b) (Nat.mul_comm a s)
  · exact Nat.add_comm _ _
  · exact (Nat.add_comm _ _).trans (congrArg (· + n / b) (Nat.mul_comm a s))

/-- monotonicity of `s*A + n/B` over clock readings, given the one side condition that a full
second is worth at least as much as the largest sub-second contribution -/
theorem mono_core {a b N : Nat} (hside : (N - 1) / b ≤ a)
    {s₁ n₁ s₂ n₂ : Nat} (h₁ : n₁ < N)
    (hle : s₁ < s₂ ∨ (s₁ = s₂ ∧ n₁ ≤ n₂)) : s₁ * a + n₁ / b ≤ s₂ * a + n₂ / b := by
  rcases hle with hlt | ⟨rfl, hn⟩
  · calc s₁ * a + n₁ / b
        ≤ s₁ * a + a := Nat.add_le_add_left (Nat.le_trans (Nat.div_le_div_right (Nat.le_sub_one_of_lt h₁)) hside) _
      _ = (s₁ + 1) * a := (Nat.succ_mul s₁ a).symm
      _ ≤ s₂ * a := Nat.mul_le_mul_right a hlt
      _ ≤ s₂ * a + n₂ / b := Nat.le_add_right _ _
  · exact Nat.add_le_add_left (Nat.div_le_div_right hn) _

theorem unit_core (s n a b : Nat) (hb : 0 < b) : s * a + n / b = (s * (a * b) + n) / b := by
  rw [← Nat.mul_assoc, Nat.mul_comm (s * a), Nat.mul_add_div hb]

/-- (multiplier of `sec`, divisor of `nsec`) of the regenerated return expression -/
def epochShape : Nat × Nat := (Gen.epochExpr.bind EExpr.shape).getD (0, 0)

/-- the regenerated expression has the recognised shape `sec*A + nsec/B` -/
theorem epochExpr_shape : ∃ e, Gen.epochExpr = some e ∧ e.shape = some epochShape := by
  have h : (Gen.epochExpr.bind EExpr.shape).isSome = true := by decide
  obtain ⟨ab, hab⟩ := Option.isSome_iff_exists.mp h
  obtain ⟨e, he, hs⟩ := Option.bind_eq_some_iff.mp hab
  exact ⟨e, he, by rw [hs, epochShape, hab]; rfl⟩

theorem epoch_eq (t : Timespec) : epoch t = t.sec * epochShape.1 + t.nsec / epochShape.2 := by
  obtain ⟨e, he, hs⟩ := epochExpr_shape
  unfold epoch
  rw [he]
  exact eval_of_shape hs

/- The side conditions below are decided by the kernel on the regenerated expression at every build:
a full second is worth at least as much as the largest sub-second contribution (monotonicity), the
two literals multiply to 10^9 (one unit), the multiplier is at most 10^6 (no overflow below 2^43 s). -/

/-- **C20** for every pair of clock readings with `t₁ ≤ t₂`, the derived timestamps are ordered. -/
theorem C20_monotone (t₁ t₂ : Timespec) (h₁ : t₁.nsec < 10 ^ 9) (hle : t₁.le t₂) :
    epoch t₁ ≤ epoch t₂ := by
  rw [epoch_eq, epoch_eq]
  exact mono_core (by decide) h₁ hle

theorem C20_unit : ∃ U, 0 < U ∧ ∀ t : Timespec, epoch t = (t.sec * 10 ^ 9 + t.nsec) / U := by
  have hu : epochShape.1 * epochShape.2 = 10 ^ 9 := by decide
  exact ⟨epochShape.2, by decide, fun t => by rw [epoch_eq, unit_core _ _ _ _ (by decide), hu]⟩

/-- under the guard the returned value stays below 2^63 (that no intermediate value of the signed 64-bit
computation overflows either is `C20M.C20_machine_guard`) -/
theorem C20_no_overflow (t : Timespec) (hs : t.sec < 2 ^ 43) (hn : t.nsec < 10 ^ 9) :
    epoch t < 2 ^ 63 := by
  rw [epoch_eq]
  have h1 := Nat.mul_le_mul (Nat.le_of_lt hs) (by decide : epochShape.1 ≤ 10 ^ 6)
  have h2 := Nat.le_trans (Nat.div_le_self t.nsec epochShape.2) (Nat.le_of_lt hn)
  exact Nat.lt_of_le_of_lt (Nat.add_le_add h1 h2) (by decide)

/-! A pair straddling a second boundary satisfies the hypotheses of `C20_monotone`. -/
example : (⟨0, 999999999⟩ : Timespec).le ⟨1, 0⟩ ∧ (999999999 : Nat) < 10 ^ 9 := by
  constructor
  · exact Or.inl (by decide)
  · decide

end LWV.Props.C20
