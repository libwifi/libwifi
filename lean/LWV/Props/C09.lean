import LWV.Lemmas.RtValues
/-
C09 — radiotap headers are decoded at their specified aligned offsets or refused.

Here: what `libwifi_parse_radiotap_info` does before its loop, in the Spec's terms (`rtInit_eq`: the
iterator's initialisation is the Spec's chain of present words; `parseRadiotapInfo_eq`), the refusal
clauses for every buffer (`C09_refuse`), the alignment/size table against the radiotap specification,
and the band/channel mapping for every frequency.  The placement of fields by the vendored iterator
(`Model.rtNext`) against the declarative rule (`Spec.rtFields`) is `Props/C09Full.lean`, the signal shortcut
`libwifi_parse_radiotap_rssi` is `Props/C09Rssi.lean`, refusal of EVERY header the Spec refuses (`C09_refuse_full`,
`C09_accept_iff`) is `Props/C02Full.lean`.
-/
namespace LWV.Props.C09
open LWV LWV.Model

/-- the library's alignment/size table is the radiotap specification's, field by field; the one
field of the first 23 the library does not define (18, XChannel) has the "unknown" entry -/
theorem C09_table :
    Gen.rtapNBits = 23 ∧ Gen.rtapSizes.length = 23 ∧
    (∀ e ∈ Spec.rtTable, Gen.rtapSizes.getD e.1 (0, 0) = (e.2.1, e.2.2)) ∧
    Gen.rtapSizes.getD 18 (0, 0) = (0, 0) := by decide +kernel

/-- the freshly initialised iterator: length `itLen`, first present word `w`, data starting at `arg` -/
def it0 (itLen w arg : Nat) : RtIt :=
  { maxLength := itLen, argIndex := 0, shifter := w, arg := arg, nextNsData := wildOffset, nextBitmap := 8,
    resetOnExt := false, inRadiotapNs := true, thisArg := arg, thisArgIndex := 0, thisArgSize := 0 }

theorem presentWords_none {bs : Bytes} {itLen off : Nat} (h : off + 4 > itLen) :
    ∀ f, Spec.presentWords bs itLen f off = none
  | 0 => rfl
  | f + 1 => by rw [Spec.presentWords, if_pos h]

theorem word_step (a n : Nat) : a + 4 + 4 * n = a + 4 * (n + 1) := by
  rw [Nat.mul_add_one, Nat.add_assoc, Nat.add_comm 4]

/-- the skip loop of `rtInit` is `Spec.presentWords`; neither fuel matters once it is large enough -/
theorem rtInit_skip_eq (bs : Bytes) (itLen : Nat) (hlen : itLen ≤ bs.length) :
    ∀ (f arg : Nat), arg + 4 ≤ itLen → itLen < arg + 4 * f → ∀ fm, bs.length < fm + arg →
      rtInit.skip bs itLen fm arg =
        match Spec.presentWords bs itLen f arg with
        | some ws => .ok (arg + 4 * ws.length)
        | none => .err (-EINVAL) := by
  intro f
  induction f with
  | zero => intro arg h1 h2; omega
  | succ f ih =>
    intro arg h1 h2 fm hfm
    cases fm with
    | zero => omega
    | succ fm =>
      rw [rtInit.skip, le32At_u32 (Nat.le_trans h1 hlen), Spec.presentWords, if_neg (Nat.not_lt.2 h1)]
      simp only [Outcome.bind_ok]
      cases hb : (Spec.u32 bs arg).testBit 31 with
      | false => simp only [Bool.false_eq_true, if_false, List.length_cons, List.length_nil]
      | true =>
        simp only [if_true]
        by_cases hfit : arg + 4 + 4 > itLen
        · rw [if_pos hfit, presentWords_none hfit]; rfl
        · rw [if_neg hfit, ih (arg + 4) (Nat.le_of_not_gt hfit) (word_step arg f ▸ h2) fm (by omega)]
          cases Spec.presentWords bs itLen f (arg + 4) with
          | none => rfl
          | some ws =>
            simp only [Option.map_some, List.length_cons]
            rw [word_step]

theorem rtInit_short {bs : Bytes} {n : Nat} (h : n < 8) : rtInit bs n = .err (-EINVAL) := by
  rw [rtInit, if_pos h]

/-- `ieee80211_radiotap_iterator_init` in the Spec's terms: it refuses a wrong version, a header length
beyond the bound and a chain of present words that leaves the header, and otherwise stands before the
first word.  A header length below 8 it does not refuse by itself unless the first word is extended
(`libwifi_parse_radiotap_info` checks the length beforehand).  `f` is the fuel handed to
`Spec.presentWords`: any `f` with room for every word of the header will do (`rtInit_skip_eq`). -/
theorem rtInit_eq (bs : Bytes) (n f : Nat) (h8 : 8 ≤ n) (hn : n ≤ bs.length) (hf : Spec.u16 bs 2 < 4 + 4 * f) :
    rtInit bs n =
      if Spec.u8 bs 0 ≠ 0 ∨ n < Spec.u16 bs 2 then .err (-EINVAL)
      else if Spec.u16 bs 2 < 8 ∧ (Spec.u32 bs 4).testBit 31 = false then
        .ok (it0 (Spec.u16 bs 2) (Spec.u32 bs 4) 8)
      else match Spec.presentWords bs (Spec.u16 bs 2) f 4 with
        | some ws => .ok (it0 (Spec.u16 bs 2) (Spec.u32 bs 4) (4 + 4 * ws.length))
        | none => .err (-EINVAL) := by
  unfold rtInit it0
  have hb8 : 8 ≤ bs.length := Nat.le_trans h8 hn
  rw [if_neg (Nat.not_lt.2 h8), rd_getD (Nat.lt_of_lt_of_le (by decide) hb8), Outcome.bind_ok,
    le16At_u16 (Nat.le_trans (by decide) hb8), Outcome.bind_ok, le32At_u32 hb8, Outcome.bind_ok]
  by_cases hv : Spec.u8 bs 0 = 0
  · rw [if_neg (show ¬ (bs.getD 0 0).toNat ≠ 0 from fun h => h hv)]
    by_cases hle : n < Spec.u16 bs 2
    · rw [if_pos hle, if_pos (Or.inr hle)]
    · have hc : ¬ (Spec.u8 bs 0 ≠ 0 ∨ n < Spec.u16 bs 2) := fun h => h.elim (fun h => h hv) hle
      rw [if_neg hle, if_neg hc]
      by_cases hl : Spec.u16 bs 2 < 8
      · cases hb : (Spec.u32 bs 4).testBit 31 with
        | false => rw [if_neg Bool.false_ne_true, if_pos ⟨hl, rfl⟩]
        | true =>
          have hx : ¬ (Spec.u16 bs 2 < 8 ∧ true = false) := fun h => Bool.noConfusion h.2
          rw [if_pos rfl, if_pos (show 8 + 4 > Spec.u16 bs 2 from Nat.lt_of_lt_of_le hl (by decide)), if_neg hx,
            presentWords_none (show 4 + 4 > Spec.u16 bs 2 from hl)]
      · obtain ⟨f, rfl⟩ := Nat.exists_eq_succ_of_ne_zero
          (show f ≠ 0 by rintro rfl; exact hl (Nat.lt_of_lt_of_le hf (by decide)))
        have hx : ¬ (Spec.u16 bs 2 < 8 ∧ (Spec.u32 bs 4).testBit 31 = false) := fun h => hl h.1
        rw [if_neg hx, Spec.presentWords, if_neg (show ¬ 4 + 4 > Spec.u16 bs 2 from hl)]
        cases hb : (Spec.u32 bs 4).testBit 31 with
        | false => simp only [hb, Bool.false_eq_true, if_false, List.length_cons, List.length_nil]
        | true =>
          simp only [hb, if_true]
          by_cases h12 : 8 + 4 > Spec.u16 bs 2
          · rw [if_pos h12, presentWords_none h12]; rfl
          · rw [if_neg h12, rtInit_skip_eq bs _ (Nat.le_trans (Nat.le_of_not_lt hle) hn) f 8 (Nat.le_of_not_gt h12)
              (word_step 4 f ▸ hf) _ (Nat.lt_of_lt_of_le (Nat.lt_succ_self _) (Nat.le_add_right _ _))]
            cases Spec.presentWords bs (Spec.u16 bs 2) f 8 with
            | none => rfl
            | some ws =>
              simp only [Outcome.bind_ok, Option.map_some, List.length_cons]
              rw [← word_step]
  · rw [if_pos (show (bs.getD 0 0).toNat ≠ 0 from hv), if_pos (Or.inl hv)]

/-- the parser up to its loop, in the shape of `Spec.rtFields`.  The fuel 64 is the Spec's own: a header of at
most 255 octets holds at most 62 present words. -/
theorem parseRadiotapInfo_eq (bs : Bytes) :
    parseRadiotapInfo bs =
      if bs.length < 8 then .err (-EINVAL)
      else if Spec.u8 bs 0 ≠ 0 ∨ Spec.u16 bs 2 < 8 ∨ Spec.u16 bs 2 > bs.length ∨ Spec.u16 bs 2 > 255 then .err (-EINVAL)
      else match Spec.presentWords bs (Spec.u16 bs 2) 64 4 with
        | none => .err (-EINVAL)
        | some ws => rtLoop bs (32 * (bs.length + 2)) (it0 (Spec.u16 bs 2) (Spec.u32 bs 4) (4 + 4 * ws.length))
            ({ length := Spec.u16 bs 2, present := 0 }, false) := by
  unfold parseRadiotapInfo
  by_cases h8 : bs.length < 8
  · rw [if_pos h8, if_pos h8]
  rw [if_neg h8, if_neg h8, le16At_u16 (by omega), le32At_u32 (by omega)]
  simp only [Outcome.bind_ok]
  by_cases hr : Spec.u16 bs 2 > 255 ∨ Spec.u16 bs 2 < 8
  · rw [if_pos hr, if_pos (hr.elim (fun h => .inr (.inr (.inr h))) fun h => .inr (.inl h))]
  · rw [if_neg hr, rtInit_eq bs bs.length 64 (by omega) (Nat.le_refl _) (by omega)]
    by_cases hc : Spec.u8 bs 0 ≠ 0 ∨ bs.length < Spec.u16 bs 2
    · rw [if_pos hc, if_pos (hc.elim .inl fun h => .inr (.inr (.inl h)))]; rfl
    · rw [if_neg hc, if_neg (fun h => hr (.inr h.1)), if_neg (not_or.2
        ⟨fun h => hc (.inl h), not_or.2 ⟨fun h => hr (.inr h), not_or.2 ⟨fun h => hc (.inr h), fun h => hr (.inl h)⟩⟩⟩)]
      cases Spec.presentWords bs (Spec.u16 bs 2) 64 4 with
      | none => rw [Outcome.bind_err]
      | some ws => rw [Outcome.bind_ok]

/-- **C09 (refuse)** for EVERY buffer: fewer than 8 octets, a non-zero version, a length field
below 8, beyond the supplied octets, or too large to be represented (> 255) is refused with a
negative error code — never mis-measured -/
theorem C09_refuse (bs : Bytes)
    (h : bs.length < 8 ∨ Spec.u8 bs 0 ≠ 0 ∨ Spec.u16 bs 2 < 8 ∨ Spec.u16 bs 2 > bs.length ∨ Spec.u16 bs 2 > 255) :
    parseRadiotapInfo bs = .err (-EINVAL) := by
  rw [parseRadiotapInfo_eq]
  split
  · rfl
  · rw [if_pos (h.resolve_left ‹_›)]

/-- **C09 (band)** the band bit and channel number the parser derives from the channel frequency are those of
the channel plans (2.4, 5 and 6 GHz), for every frequency -/
theorem C09_band (freq : Nat) : bandCenter freq = Spec.channelOf freq := by
  unfold bandCenter Spec.channelOf
  by_cases a : 2412 ≤ freq ∧ freq ≤ 2484
  · rw [if_pos a]
    by_cases b : freq = 2484
    · subst b
      rfl
    rw [if_neg b]
    by_cases c : 2412 ≤ freq ∧ freq ≤ 2472
    · rw [if_pos c]
      rfl
    · rw [if_neg c, if_pos (show 2473 ≤ freq ∧ freq ≤ 2483 from
        ⟨Nat.lt_of_not_le fun h => c ⟨a.1, h⟩, Nat.le_of_lt_succ (Nat.lt_of_le_of_ne a.2 b)⟩)]
      rfl
  rw [if_neg a, if_neg (show ¬(2412 ≤ freq ∧ freq ≤ 2472) from fun h => a ⟨h.1, Nat.le_trans h.2 (by decide)⟩),
    if_neg (show ¬(2473 ≤ freq ∧ freq ≤ 2483) from
      fun h => a ⟨Nat.le_trans (by decide) h.1, Nat.le_trans h.2 (by decide)⟩),
    if_neg (show ¬freq = 2484 from fun h => a ⟨Nat.le_trans (by decide) (Nat.le_of_eq h.symm), Nat.le_of_eq h⟩)]
  by_cases d : 5160 ≤ freq ∧ freq ≤ 5885
  · rw [if_pos d, if_pos d, Nat.mod_eq_of_lt (Spec.plan_lt d.2 (by decide))]
    rfl
  rw [if_neg d, if_neg d]
  by_cases e : 5955 ≤ freq ∧ freq ≤ 7115
  · rw [if_pos e, if_pos e, Nat.mod_eq_of_lt (Spec.plan_lt e.2 (by decide))]
    rfl
  rw [if_neg e, if_neg e]

/-- every header the Spec accepts is accepted by the parser, which reports the header's length
(the reported values: `C09Full.C09_decode_full`) -/
def C09_decode_statement : Prop :=
  ∀ bs : Bytes, ∀ itLen fields, Spec.rtFields bs = some (itLen, fields) →
    ∃ info, parseRadiotapInfo bs = .ok info ∧ info.length = itLen

/-! FLAGS | RATE | CHANNEL at offsets 8, 9, 10 (the channel aligned to 2); 2472 MHz is channel 13 of the
2.4 GHz band. -/
example : parseRadiotapInfo [0, 0, 16, 0, 0x0e, 0, 0, 0, 0x12, 0, 0xa8, 0x09, 0x0a, 0, 0xc5, 0] =
    .ok { length := 16, flags := 18, rateRaw := 0, chanFreq := 2472, chanFlags := 10, chanCenter := 13, chanBand := 1 } := by
  decide +kernel

end LWV.Props.C09
