import LWV.Props.C03
import LWV.Props.C10
import LWV.Model.Misc
/-
C07 — serialisation never writes outside the caller's buffer: the dump routines on objects the generator theorems
produce, single tags, the radiotap generator and random addresses; objects a caller has written into are in
Props/C07Any.lean.
-/
namespace LWV.Props.C07
open LWV LWV.Model LWV.Spec LWV.Props.C03

/-- **C07 (dump)** for every object the generators can produce (any arguments, any history of
appended tags or details — `Good` is exactly what C03 establishes) and EVERY buffer: a buffer
smaller than the encoding is refused and left untouched; otherwise exactly the encoding is written
from the first byte, the reported count is its length, and the rest of the buffer is unchanged. -/
theorem C07_dump (k : GKind) (a : GArgs) (o : GObj) (es : List Elem) (det : Bytes) (g : Good k a o es det) (buf : Bytes) :
    dumpInto o buf =
      if buf.length < (Spec.frame (sk k) (sa a) es det).length then .ok (-EINVAL, buf)
      else .ok (((Spec.frame (sk k) (sa a) es det).length : Nat),
                Spec.frame (sk k) (sa a) es det ++ buf.drop (Spec.frame (sk k) (sa a) es det).length) :=
  dumpInto_eq g.enc g.len.symm buf

/-- the buffer keeps its size, so "nothing beyond" is literally the untouched suffix -/
theorem C07_dump_length (k : GKind) (a : GArgs) (o : GObj) (es : List Elem) (det : Bytes) (g : Good k a o es det) (buf : Bytes) :
    ∃ r buf', dumpInto o buf = .ok (r, buf') ∧ buf'.length = buf.length := by
  rw [C07_dump k a o es det g buf]
  by_cases h : buf.length < (Spec.frame (sk k) (sa a) es det).length
  · exact ⟨_, _, if_pos h, rfl⟩
  · exact ⟨_, _, if_neg h, length_overwrite h⟩

/-- **C07 (tag)** single-tag serialisation, for every tag built by `libwifi_create_tag` and every buffer -/
theorem C07_tag (num : Nat) (d : Bytes) (buf : Bytes) :
    let tag := createTag num d
    let enc : Bytes := tag.num :: tag.len :: d.take tag.len.toNat
    dumpTag tag buf = if buf.length < enc.length then .ok (-EINVAL, buf) else .ok ((enc.length : Nat), enc ++ buf.drop enc.length) := by
  intro tag enc
  -- the length octet is `d.length % 256`
  have hl : tag.len.toNat ≤ d.length := by
    show (UInt8.ofNat d.length).toNat ≤ d.length
    rw [UInt8.toNat_ofNat']
    exact Nat.mod_le _ _
  have henc : enc.length = 2 + tag.len.toNat := by
    show (d.take tag.len.toNat).length + 1 + 1 = _
    rw [List.length_take_of_le hl]
    exact Nat.add_comm _ 2
  unfold dumpTag
  show (if buf.length < 2 + tag.len.toNat then _ else rdSlice "tag body" d 0 tag.len.toNat >>= _) = _
  rw [rdSlice_ok (Nat.le_trans (Nat.le_of_eq (Nat.zero_add _)) hl), Outcome.bind_ok, List.drop_zero, ← henc]

/-- **C07 (radiotap)** for ALL 2^32 present words, all field values and up to the documented 16
antennas, generation never writes past its staging area and the header never exceeds the
documented maximum size -/
theorem C07_radiotap_bound (g : RtGen) (ha : g.antennaCount ≤ Gen.m_LIBWIFI_MAX_RADIOTAP_ANTENNAS) :
    ∃ h, createRadiotap g = .ok h ∧ h.length ≤ Gen.m_LIBWIFI_MAX_RADIOTAP_LEN :=
  ⟨_, C10.C10_valid_all g ha, C10.rtEncode_length_le g ha⟩

/-- **C07 (random address)** exactly six octets are produced and a requested prefix is kept,
whatever the random source delivers (all, some or none of the requested octets) -/
theorem C07_random_mac (pfx : Option Bytes) (supply : Bytes) :
    (randomMac pfx supply).length = 6 ∧
    (∀ p, pfx = some p → (randomMac pfx supply).take 3 = (p ++ [0, 0, 0]).take 3) := by
  unfold randomMac getrandom
  constructor
  · cases pfx with
    | none => exact length_fill _ 6 0 (List.length_take_le 6 supply)
    | some p =>
      dsimp only
      rw [List.append_assoc, List.length_append, length_fill _ 3 0 (List.length_take_le 3 supply)]
      exact congrArg (· + 3) (length_pad p 3)
  · intro p hp
    subst hp
    dsimp only
    rw [List.append_assoc]
    exact (List.take_append_of_le_length (Nat.le_of_eq (length_pad p 3).symm)).trans
      (List.take_of_length_le (List.length_take_le 3 _))

/-! The hypothesis `Good` of `C07_dump` is met by a created authentication frame. -/
example : ∃ o, create .auth { alg := 1 } = .ok (0, o) ∧ Good .auth { alg := 1 } o [] [] := by
  obtain ⟨o, h, g⟩ := good_create .auth { alg := 1 } (by decide)
  exact ⟨o, h, g⟩

end LWV.Props.C07
