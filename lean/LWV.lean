import LWV.Props.C01
import LWV.Props.C02
import LWV.Props.C02Full
import LWV.Props.C03
import LWV.Props.C03Full
import LWV.Props.C04
import LWV.Props.C04Full
import LWV.Props.C04Round
import LWV.Props.C05
import LWV.Props.C06
import LWV.Props.C07
import LWV.Props.C07Any
import LWV.Props.C08
import LWV.Props.C09
import LWV.Props.C09Full
import LWV.Props.C09Rssi
import LWV.Props.C10
import LWV.Props.C10Full
import LWV.Props.C11
import LWV.Props.C12
import LWV.Props.C13
import LWV.Props.C14
import LWV.Props.C14Full
import LWV.Props.C14Parse
import LWV.Props.C15
import LWV.Props.C15Parse
import LWV.Props.C16
import LWV.Props.C17
import LWV.Props.C18
import LWV.Props.C19
import LWV.Props.C20
import LWV.Props.C20Full
import LWV.Props.C20Machine
import LWV.Props.Shape
